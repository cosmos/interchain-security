/-
  The provider state as a store of consumer records (`get` / `set`), and what the lifecycle
  handlers write, said once per handler.
-/
import ICS.Model.Provider
import ICS.Lemmas.List
namespace ICS.Provider

theorem set_consumers (s : State) (x : Consumer) :
    (s.set x).consumers =
      if s.consumers.any (·.id == x.id) then s.consumers.map fun y => if y.id == x.id then x else y
      else s.consumers ++ [x] := by
  unfold State.set; split <;> rfl

theorem set_eq (s : State) (x : Consumer) : s.set x = { s with consumers := (s.set x).consumers } := by
  unfold State.set; split <;> rfl

theorem get_set (s : State) (x : Consumer) (c : CId) : (s.set x).get c = if x.id = c then x else s.get c := by
  unfold State.get
  rw [set_consumers, find?_upsert Consumer.id]
  by_cases h : x.id = c <;> simp [h]

theorem get_set_id (s : State) (x : Consumer) (c : CId) (h : x.id = c) : (s.set x).get c = x := by
  rw [get_set, if_pos h]

theorem get_set_other (s : State) (x : Consumer) (c : CId) (h : c ≠ x.id) : (s.set x).get c = s.get c := by
  rw [get_set, if_neg (Ne.symm h)]

theorem get_id (s : State) (c : CId) : (s.get c).id = c := by
  unfold State.get
  split
  · rename_i x hx; exact eq_of_beq (List.find?_some (p := fun x : Consumer => x.id == c) hx)
  · rfl

theorem set_spawnQ (s : State) (x : Consumer) : (s.set x).spawnQ = s.spawnQ := by rw [set_eq]
theorem set_removeQ (s : State) (x : Consumer) : (s.set x).removeQ = s.removeQ := by rw [set_eq]
theorem set_infrQ (s : State) (x : Consumer) : (s.set x).infrQ = s.infrQ := by rw [set_eq]
theorem set_nextId (s : State) (x : Consumer) : (s.set x).nextId = s.nextId := by rw [set_eq]
theorem set_vscId (s : State) (x : Consumer) : (s.set x).vscId = s.vscId := by rw [set_eq]

/-- InitializeConsumer + PrepareConsumerForLaunch: nothing, or the phase of `c` and the launch schedule -/
theorem initializeAndPrepare_eq (s : State) (c : CId) (prev : Time) :
    initializeAndPrepare s c prev =
      if !(isPrelaunched (s.get c).phase) || !(s.get c).hasInit || (s.get c).spawn == 0 then some s
      else (if prev != 0 then tqRemove s.spawnQ prev c else some s.spawnQ).map fun q =>
        { s.set { s.get c with phase := .initialized } with spawnQ := tqAppend q (s.get c).spawn c } := by
  unfold initializeAndPrepare
  dsimp only
  split
  · rfl
  · rw [set_spawnQ]; cases (if prev != 0 then tqRemove s.spawnQ prev c else some s.spawnQ) <;> rfl

theorem initializeAndPrepare_some {s s' : State} {c : CId} {prev : Time}
    (h : initializeAndPrepare s c prev = some s') :
    s' = s ∨ ∃ q, s' = { s.set { s.get c with phase := .initialized } with spawnQ := q } := by
  rw [initializeAndPrepare_eq] at h
  split at h
  · exact Or.inl (Option.some.inj h).symm
  · obtain ⟨q, _, rfl⟩ := Option.map_eq_some_iff.mp h
    exact Or.inr ⟨_, rfl⟩

theorem initializeAndPrepare_get {s s' : State} {c : CId} {prev : Time}
    (h : initializeAndPrepare s c prev = some s') :
    s'.authority = s.authority ∧ ∃ p, s'.get c = { s.get c with phase := p } := by
  obtain rfl | ⟨q, rfl⟩ := initializeAndPrepare_some h
  · have eta : ∀ x : Consumer, x = { x with phase := x.phase } := fun _ => rfl
    exact ⟨rfl, _, eta _⟩
  · have frame : ∀ t : State, State.get { t with spawnQ := q } c = t.get c := fun _ => rfl
    exact ⟨by rw [set_eq], _, (frame _).trans (get_set_id s _ c (get_id s c))⟩

/-- StopAndPrepareForConsumerRemoval writes the record of `c` (and the removal schedule) -/
theorem stopConsumer_get (s : State) (c c' : CId) :
    (stopConsumer s c).get c' = if c = c' then stopRecord (s.now + s.unbonding) (s.get c) else s.get c' :=
  (get_set s _ c').trans (by rw [show (stopRecord _ (s.get c)).id = c from get_id s c])

/-- DeleteConsumerChain succeeds on stopped consumers only; it clears the record of `c` and takes
    `c` out of the client, channel and infraction-parameter indexes -/
theorem deleteConsumerChain_some {s s' : State} {c : CId} (h : deleteConsumerChain s c = some s') :
    (s.get c).phase = .stopped ∧
    ∃ a b q, s' = { s.set (clearRecord (s.get c)) with client2c := a, chan2c := b, infrQ := q } := by
  unfold deleteConsumerChain at h
  dsimp only at h
  split at h
  · cases h
  · rename_i hp
    exact ⟨by simpa using hp, _, _, _, (Option.some.inj h).symm⟩

/-- the client binding of a launch: the record it is given, launched and bound, plus the client index -/
theorem launchBind_some {s s' : State} {c : CId} {x : Consumer} {env : LaunchEnv}
    (h : launchBind s c x env = some s') :
    ∃ cl ev l n, s' = { s.set { x with client := some cl, evmin := ev, phase := .launched } with
                          client2c := l, nextClient := n } := by
  unfold launchBind at h
  by_cases hconn : (x.conn == "") = true
  · rw [if_pos hconn] at h
    simp only [Option.ite_none_left_eq_some, Option.some.injEq] at h
    exact ⟨_, _, _, _, h.2.2.symm⟩
  · rw [if_neg hconn] at h
    cases he : env.connClient with
    | none => rw [he] at h; cases h
    | some e =>
      obtain ⟨cid, chain, hgt⟩ := e
      rw [he] at h
      simp only [Option.ite_none_left_eq_some, Option.some.injEq] at h
      exact ⟨_, _, _, _, h.2.2.symm⟩

theorem launchRecord_id {s : State} {c : CId} {env : LaunchEnv} {x : Consumer}
    (h : launchRecord s c env = some x) : x.id = c := by
  unfold launchRecord at h
  dsimp only at h
  cases hps : (s.get c).ps with
  | none => rw [hps] at h; cases h
  | some _ =>
    rw [hps] at h
    cases hn : Epoch.computeNextValSet (epochInput s (s.get c) []) with
    | none => rw [hn] at h; cases h
    | some out =>
      rw [hn] at h
      simp only [Option.ite_none_left_eq_some, Option.some.injEq] at h
      rw [← h.2.2.2]; exact get_id s c

theorem launchFallback_some {s s' : State} {c : CId} (h : launchFallback s c = some s') :
    s' = s.set { s.get c with spawn := 0, phase := .registered } := by
  unfold launchFallback at h
  dsimp only at h
  split at h
  · cases h
  · exact (Option.some.inj h).symm

theorem clearQueued_get (s : State) (c : CId) : (clearQueued s c).get c = { s.get c with qinfr := none } :=
  get_set_id s _ c (get_id s c)

/-- UpdateQueuedInfractionParams: the pending change is dropped; a request that differs from the
    parameters in force becomes the pending change, due one unbonding period from now -/
theorem updateQueuedInfr_eq (s : State) (c : CId) (new : Infr) :
    updateQueuedInfr s c new =
      if (s.get c).infr = some new then clearQueued s c
      else { (clearQueued s c).set { s.get c with qinfr := some new } with
               infrQ := tqAppend (clearQueued s c).infrQ (s.now + s.unbonding) c } := by
  unfold updateQueuedInfr
  simp only [clearQueued_get, beq_iff_eq]
  have hn : (clearQueued s c).now = s.now := by unfold clearQueued; rw [set_eq]
  have hu : (clearQueued s c).unbonding = s.unbonding := by unfold clearQueued; rw [set_eq]
  rw [hn, hu]

theorem updateQueuedInfr_get (s : State) (c : CId) (new : Infr) :
    (updateQueuedInfr s c new).get c =
      { s.get c with qinfr := if (s.get c).infr = some new then none else some new } := by
  rw [updateQueuedInfr_eq]
  split
  · exact clearQueued_get s c
  · exact get_set_id (clearQueued s c) _ c (get_id s c)

end ICS.Provider
