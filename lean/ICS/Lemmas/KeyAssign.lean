/-
  Key assignment of one consumer read as two lookup functions: `assignedKey x v` (validator ↦ its
  current consumer key) and `resolveKey x k` (consumer key ↦ validator), with the prune schedule
  `x.prune`.  What `assignRecord` (the writes of AssignConsumerKey) and `pruneKeys`
  (PruneKeyAssignments) do is said here in those terms.
-/
import ICS.Lemmas.Bucket
import ICS.Lemmas.Prov
namespace ICS.Provider

theorem find_setAssoc (l : List (Nat × Nat)) (k v k' : Nat) :
    (setAssoc l k v).find? (·.1 == k') = if k = k' then some (k, v) else l.find? (·.1 == k') := by
  unfold setAssoc
  exact (find?_upsert Prod.fst l (k, v) k').trans (ite_congr (propext beq_iff_eq) (fun _ => rfl) fun _ => rfl)

theorem assignedKey_eq (x : Consumer) (v : Nat) : assignedKey x v = (x.ka.find? (·.1 == v)).map (·.2) := by
  unfold assignedKey; cases x.ka.find? (·.1 == v) <;> rfl

theorem resolveKey_eq (x : Consumer) (k : Nat) : resolveKey x k = (x.byaddr.find? (·.1 == k)).map (·.2) := by
  unfold resolveKey; cases x.byaddr.find? (·.1 == k) <;> rfl

theorem assignRecord_id (t : Time) (v key : Nat) (x : Consumer) : (assignRecord t v key x).id = x.id := by
  unfold assignRecord
  cases assignedKey x v with
  | none => rfl
  | some old => dsimp only; split <;> rfl

theorem assignedKey_assignRecord (t : Time) (v key : Nat) (x : Consumer) (w : Nat) :
    assignedKey (assignRecord t v key x) w = if w = v then some key else assignedKey x w := by
  have hka : (assignRecord t v key x).ka = setAssoc x.ka v key := by
    unfold assignRecord
    cases assignedKey x v with
    | none => rfl
    | some old => dsimp only; split <;> rfl
  rw [assignedKey_eq, hka, find_setAssoc, assignedKey_eq]
  by_cases h : w = v
  · rw [if_pos h, if_pos h.symm]; rfl
  · rw [if_neg h, if_neg (Ne.symm h)]

/-- `key` now resolves to `v`; the replaced key is forgotten at once before launch and kept on a
    launched consumer; every other key resolves as before -/
theorem resolveKey_assignRecord (t : Time) (v key : Nat) (x : Consumer) (k : Nat) :
    resolveKey (assignRecord t v key x) k =
      if k = key then some v
      else if x.phase ≠ .launched ∧ assignedKey x v = some k then none else resolveKey x k := by
  have hby : ((x.phase = .launched ∨ assignedKey x v = none) ∧
        (assignRecord t v key x).byaddr = setAssoc x.byaddr key v) ∨
      ∃ old, x.phase ≠ .launched ∧ assignedKey x v = some old ∧
        (assignRecord t v key x).byaddr = setAssoc (x.byaddr.filter fun b => !(b.1 == old)) key v := by
    unfold assignRecord
    cases h : assignedKey x v with
    | none => exact .inl ⟨.inr rfl, rfl⟩
    | some old =>
      dsimp only
      by_cases hl : x.phase = .launched
      · rw [if_pos (beq_iff_eq.mpr hl)]; exact .inl ⟨.inl hl, rfl⟩
      · rw [if_neg (mt beq_iff_eq.mp hl)]; exact .inr ⟨old, hl, rfl, rfl⟩
  rw [resolveKey_eq]
  by_cases hk : k = key
  · rcases hby with ⟨_, h⟩ | ⟨_, _, _, h⟩ <;> rw [h, find_setAssoc, if_pos hk.symm, if_pos hk] <;> rfl
  rw [if_neg hk]
  rcases hby with ⟨hno, h⟩ | ⟨old, hl, hold, h⟩
  · rw [h, find_setAssoc, if_neg (Ne.symm hk), ← resolveKey_eq, if_neg]
    rintro ⟨hl, hold⟩
    rcases hno with hno | hno
    · exact hl hno
    · rw [hno] at hold; cases hold
  · rw [h, find_setAssoc, if_neg (Ne.symm hk), find?_filter_key Prod.fst (· == old), hold]
    by_cases hko : k = old
    · rw [if_pos (beq_iff_eq.mpr hko), if_pos ⟨hl, by rw [hko]⟩]; rfl
    · rw [if_neg, if_neg, resolveKey_eq]
      · exact fun h => hko (Option.some.inj h.2).symm
      · exact fun h => hko (eq_of_beq h)

theorem prune_assignRecord (t : Time) (v key : Nat) (x : Consumer) :
    (assignRecord t v key x).prune =
      match assignedKey x v with
      | some old => if x.phase = .launched then pruneAppend x.prune t old else x.prune
      | none => x.prune := by
  unfold assignRecord
  cases assignedKey x v with
  | none => rfl
  | some old =>
    dsimp only
    by_cases hl : x.phase = .launched
    · rw [if_pos (beq_iff_eq.mpr hl), if_pos hl]
    · rw [if_neg (mt beq_iff_eq.mp hl), if_neg hl]

theorem mem_prune_assignRecord {t : Time} {v key : Nat} {x : Consumer} {k : Nat}
    (h : k ∈ Bucket.ids (assignRecord t v key x).prune) :
    k ∈ Bucket.ids x.prune ∨ (x.phase = .launched ∧ assignedKey x v = some k) := by
  rw [prune_assignRecord] at h
  cases ho : assignedKey x v with
  | none => rw [ho] at h; exact .inl h
  | some old =>
    rw [ho] at h
    dsimp only at h
    split at h
    · rw [Bucket.pruneAppend_eq] at h
      exact (Bucket.mem_ids_append h).symm.imp_right fun hk => ⟨‹_›, by rw [hk]⟩
    · exact .inl h

theorem assignKey_some {s s' : State} {c : CId} {v key : Nat} (h : assignKey s c v key = some s') :
    assignOK s c v key = true ∧ s' = s.set (assignRecord (s.now + s.unbonding) v key (s.get c)) := by
  unfold assignKey at h
  split at h
  · exact ⟨‹_›, (Option.some.inj h).symm⟩
  · cases h

theorem assignOK_free {s : State} {c : CId} {v key : Nat} (hok : assignOK s c v key = true) :
    resolveKey (s.get c) key = none := by
  unfold assignOK at hok
  exact Option.isNone_iff_eq_none.mp (Bool.and_eq_true_iff.mp hok).2

theorem resolveKey_pruneKeys (x : Consumer) (now : Time) (k : Nat) :
    resolveKey (pruneKeys x now) k =
      if k ∈ Bucket.ids (x.prune.filter fun e => decide (e.1 ≤ now)) then none else resolveKey x k := by
  rw [resolveKey_eq, resolveKey_eq]
  show ((x.byaddr.filter fun b => !(Bucket.ids (x.prune.filter fun e => decide (e.1 ≤ now))).contains b.1).find?
    (·.1 == k)).map (·.2) = _
  rw [find?_filter_key Prod.fst (List.contains _)]
  simp only [List.contains_iff_mem]
  split <;> rfl

end ICS.Provider
