/-
  What the evidence handlers of Model/Equivocation.lean and Model/Misbehaviour.lean return on which
  input: one inversion lemma per guard chain, and what `applyEffect` does to the record found under
  a validator id.
-/
import ICS.Model.Misbehaviour
import ICS.Lemmas.List
namespace ICS.Equiv
open ICS ICS.Provider ICS.Epoch

variable {s : State} {stk : List SVal} {unb : List Unb} {now : Time} {c : CId} {effs : List Effect}
  (burn : Nat → Nat → String → Nat)

theorem handleDV_some {e : Evidence} (h : handleDV s unb c e = some effs) :
    ∃ ds hv, (s.get c).infr.bind (·.ds) = some ds ∧ e.hv = some hv ∧
      basicOK e = true ∧ hv.isEmpty = false ∧ hv.contains e.a.addr = true ∧
      (s.get c).client.isSome = true ∧ (s.get c).evmin ≤ e.a.height ∧
      verifyDV e (s.get c).chain e.a.addr = true ∧
      punish s.stk unb s.now (providerOf (s.get c) e.a.addr) ds = some effs := by
  unfold handleDV at h
  cases hhv : e.hv <;> cases hds : (s.get c).infr.bind (·.ds) <;>
    simp only [hhv, hds, Option.ite_none_left_eq_some, Bool.not_eq_true, Bool.not_eq_false',
      Option.isNone_eq_false_iff, Nat.not_lt, ite_self, reduceCtorEq] at h
  exact ⟨_, _, rfl, rfl, h⟩

theorem punish_some {v : Nat} {p : SlashJail} (h : punish stk unb now v p = some effs) :
    ∃ r, stk.find? (·.id == v) = some r ∧ r.status ≠ 1 ∧ r.tomb = false ∧
      effs = [Effect.slash v (powerToSlash r unb now) p.frac] ++ (if r.jailed then [] else [Effect.jail v]) ++
             [Effect.jailUntil v (if now + p.jail > maxTime then maxTime else now + p.jail)] ++
             (if p.tomb then [Effect.tombstone v] else []) := by
  unfold punish at h
  cases hf : stk.find? (·.id == v) <;>
    simp only [hf, Option.ite_none_left_eq_some, beq_iff_eq, Bool.not_eq_true, Option.some.injEq,
      reduceCtorEq] at h
  exact ⟨_, rfl, h.1, h.2.1, h.2.2.symm⟩

theorem punish_val {v : Nat} {p : SlashJail} (h : punish stk unb now v p = some effs) :
    ∀ f ∈ effs, f.val = v := by
  obtain ⟨r, -, -, -, rfl⟩ := punish_some h
  intro f hf
  simp only [List.mem_append, List.mem_singleton, List.mem_ite_nil_left, List.mem_ite_nil_right] at hf
  rcases hf with ((rfl | ⟨-, rfl⟩) | rfl) | ⟨-, rfl⟩ <;> rfl

/-- the record update an effect makes on the validator it names -/
def Effect.upd : Effect → SVal → SVal
  | .slash _ p f, r => { r with tokens := r.tokens - burn r.tokens p f }
  | .jail _, r => { r with jailed := true }
  | .jailUntil _ t, r => { r with jailedUntil := t }
  | .tombstone _, r => { r with tomb := true }

theorem applyEffect_eq (f : Effect) :
    applyEffect burn stk f = stk.map fun r => if r.id == f.val then f.upd burn r else r := by
  cases f <;> rfl

theorem Effect.upd_id (f : Effect) (r : SVal) : (f.upd burn r).id = r.id := by
  cases f <;> rfl

theorem Effect.upd_tomb (f : Effect) {r : SVal} (h : r.tomb = true) : (f.upd burn r).tomb = true := by
  cases f with
  | tombstone => rfl
  | _ => exact h

/-- an effect changes the record of the validator it names, by `upd`, and no other -/
theorem find?_applyEffect (f : Effect) (v : Nat) :
    (applyEffect burn stk f).find? (·.id == v) =
      (stk.find? (·.id == v)).map fun r => if v = f.val then f.upd burn r else r := by
  rw [applyEffect_eq, find?_map_key SVal.id fun r => by split; exact f.upd_id burn r; rfl]
  refine Option.map_congr fun r hr => ?_
  have hid := List.find?_some hr
  simp only [eq_of_beq hid, beq_iff_eq]

/-- a tombstone among the effects leaves the validator it names tombstoned -/
theorem applyEffects_tomb {es : List Effect} {v : Nat} (ht : .tombstone v ∈ es) {r : SVal}
    (hr : (applyEffects burn stk es).find? (·.id == v) = some r) : r.tomb = true := by
  refine foldl_of_mem (fun stk' => ∀ r, stk'.find? (·.id == v) = some r → r.tomb = true) ht stk ?_ ?_ r hr
  · intro stk r hr
    rw [find?_applyEffect] at hr
    obtain ⟨r0, -, rfl⟩ := Option.map_eq_some_iff.mp hr
    exact congrArg SVal.tomb (if_pos rfl)
  · intro stk f ih r hr
    rw [find?_applyEffect] at hr
    obtain ⟨r0, h0, rfl⟩ := Option.map_eq_some_iff.mp hr
    split
    · exact f.upd_tomb burn (ih r0 h0)
    · exact ih r0 h0

/-! ### light-client attack -/

theorem signerOf_mem {sigs : List CSig} {k : Nat} {s : CSig} (h : signerOf sigs k = some s) :
    s ∈ sigs ∧ s.flag ≠ .absent ∧ s.key = k := by
  have hs := List.mem_filter.mp (List.mem_of_getLast? h)
  rwa [Bool.and_eq_true, bne_iff_ne, beq_iff_eq] at hs

theorem punishAll_vals {x : Consumer} {ds : SlashJail} {ks : List Nat} {n : Nat} :
    ∀ f ∈ (punishAll x ds unb now ks stk effs n).1, f ∈ effs ∨ f.val ∈ ks.map (providerOf x) := by
  fun_induction punishAll x ds unb now ks stk effs n with
  | case1 => exact fun f hf => .inl hf
  | case2 k ks stk effs n hp ih => exact fun f hf => (ih f hf).imp_right (List.mem_cons_of_mem _)
  | case3 k ks stk effs n es hp ih =>
    intro f hf
    rcases ih f hf with h | h
    · exact (List.mem_append.mp h).imp_right fun h => punish_val hp f h ▸ List.mem_cons_self
    · exact .inr (List.mem_cons_of_mem _ h)

theorem handleMisb_some {env : ClientEnv} {m : Misb} (h : handleMisb s unb env c m = some effs) :
    ∃ byz ds, byzantine m = some byz ∧ (s.get c).infr.bind (·.ds) = some ds ∧
      misbBasicOK m = true ∧ checkMisb (s.get c) env m = true ∧
      (punishAll (s.get c) ds unb s.now byz s.stk [] 0).2 ≠ 0 ∧
      (punishAll (s.get c) ds unb s.now byz s.stk [] 0).1 = effs := by
  unfold handleMisb at h
  cases hz : byzantine m <;> cases hds : (s.get c).infr.bind (·.ds) <;>
    simp only [hz, hds, Option.ite_none_left_eq_some, Bool.not_eq_true', Bool.not_eq_false, beq_iff_eq,
      Option.some.injEq, ite_self, reduceCtorEq] at h
  exact ⟨_, _, rfl, rfl, h⟩

end ICS.Equiv
