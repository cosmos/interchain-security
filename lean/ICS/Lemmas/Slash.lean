/-
  The slash meter of one BeginBlock in closed form, and the one exit of `onRecvSlash` on which the
  meter moves and staking effects are produced.
-/
import ICS.Model.Provider
namespace ICS.Provider

theorem replenishStep_meter (t : Throttle) (now : Time) (a : Nat) :
    (replenishStep t now a).meter = if now ≥ t.candidate then min (a : Int) (t.meter + a) else t.meter := by
  unfold replenishStep
  split
  · dsimp only
    by_cases h : t.meter + a > a
    · rw [if_pos h, Int.min_eq_left (Int.le_of_lt h)]
    · rw [if_neg h, Int.min_eq_right (Int.not_lt.mp h)]
  · rfl

theorem replenishStep_period (t : Throttle) (now : Time) (a : Nat) : (replenishStep t now a).period = t.period := by
  unfold replenishStep
  split <;> rfl

theorem clampStep_meter (t : Throttle) (now : Time) (a : Nat) :
    (clampStep t now a).meter = min (a : Int) t.meter := by
  unfold clampStep
  rw [Int.min_def]
  split <;> rfl

theorem checkReplenish_meter (t : Throttle) (now : Time) (a : Nat) :
    (checkReplenish t now a).meter = min (a : Int) (if now ≥ t.candidate then t.meter + a else t.meter) := by
  unfold checkReplenish
  rw [clampStep_meter, replenishStep_meter]
  split
  · rw [← Int.min_assoc, Int.min_self]
  · rfl

/-- Every exit of `onRecvSlash` but the last returns the meter as it was and no staking effect; the
    last is taken only by a downtime packet while the meter is non-negative. -/
theorem onRecvSlash_quiet_or_handled (s : State) (t : Throttle) (vsc2h : List (Nat × Nat)) (chan : String)
    (p : SlashPkt) :
    (onRecvSlash s t vsc2h chan p).2.2.1 = [] ∧ (onRecvSlash s t vsc2h chan p).2.1 = t ∨
      p.infraction = 2 ∧ 0 ≤ t.meter := by
  -- one early exit: an `if` whose `then` branch has the quiet shape
  -- (`split` on a chain of n nested `if`s costs about 2^n)
  have early {c : Prop} [Decidable c] {s₁ : State} {a₁ : SlashAck} {y : State × Throttle × List StkEffect × SlashAck}
      {Q : Prop} (hy : ¬c → y.2.2.1 = [] ∧ y.2.1 = t ∨ Q) :
      (if c then (s₁, t, [], a₁) else y).2.2.1 = [] ∧ (if c then (s₁, t, [], a₁) else y).2.1 = t ∨ Q :=
    if h : c then .inl (if_pos h ▸ ⟨rfl, rfl⟩) else if_neg h ▸ hy h
  unfold onRecvSlash
  cases s.chan2c.find? (·.1 == chan) with
  | none => exact .inl ⟨rfl, rfl⟩
  | some e =>
    dsimp only
    refine early fun _ => ?_
    refine early fun hinf => ?_
    refine early fun _ => ?_
    refine early fun hds => ?_
    refine early fun _ => ?_
    refine early fun _ => ?_
    refine early fun hneg => ?_
    simp only [beq_iff_eq, bne_iff_ne, Bool.and_eq_true, ne_eq, not_and, Decidable.not_not] at hinf hds
    exact .inr ⟨hinf hds, Int.not_lt.mp hneg⟩

end ICS.Provider
