/-
  From positions to lookups: `capLoop` keeps the list of ids, so with distinct ids the power that
  `lookupPower` finds under a validator's id is the power at the validator's own position.
-/
import ICS.Lemmas.Cap
import ICS.Spec.C04
namespace ICS.Shaping
open ICS.Spec.C04

theorem lookupPower_cons_ne (o : CV) (os : List CV) (i : Nat) (h : o.id ≠ i) :
    lookupPower (o :: os) i = lookupPower os i := by
  unfold lookupPower
  rw [List.find?_cons_of_neg (by simpa using h)]

theorem lookupPower_cons_eq (o : CV) (os : List CV) : lookupPower (o :: os) o.id = o.power := by
  unfold lookupPower
  rw [List.find?_cons_of_pos (p := fun x : CV => x.id == o.id) (a := o) (beq_self_eq_true o.id)]

/-- in aligned lists with distinct ids, the lookup of a member's id is its aligned partner -/
theorem lookupPower_of_mem_zip {xs os : List CV} (hid : os.map (·.id) = xs.map (·.id))
    (hnd : (xs.map (·.id)).Nodup) {p : CV × CV} (hp : p ∈ xs.zip os) :
    lookupPower os p.1.id = p.2.power := by
  induction xs generalizing os with
  | nil => cases hp
  | cons x xs' ih =>
    cases os with
    | nil => cases hid
    | cons o os' =>
      rw [List.map_cons, List.map_cons, List.cons.injEq] at hid
      rw [List.map_cons, List.nodup_cons] at hnd
      rcases List.mem_cons.mp hp with rfl | h
      · exact hid.1 ▸ lookupPower_cons_eq o os'
      · rw [lookupPower_cons_ne o os' _ fun he =>
          hnd.1 (List.mem_map.mpr ⟨p.1, (List.of_mem_zip h).1, (hid.1 ▸ he).symm⟩)]
        exact ih hid.2 hnd.2 h

/-- order kept at positions (`KeepsOrder`, on a descending list) is order kept under `lookupPower` -/
theorem zip_pairwise_lookup {xs os : List CV} (hid : os.map (·.id) = xs.map (·.id))
    (hnd : (xs.map (·.id)).Nodup) (hd : Desc xs) (hp : (xs.zip os).Pairwise KeepsOrder) :
    ∀ a ∈ xs, ∀ b ∈ xs, a.power > b.power → lookupPower os a.id ≥ lookupPower os b.id := by
  have hlen : xs.length ≤ os.length := by
    have := congrArg List.length hid
    rw [List.length_map, List.length_map] at this
    exact Nat.le_of_eq this.symm
  -- a validator standing later has no more power, so the order holds vacuously backwards
  refine List.Pairwise.forall_of_forall_of_flip (fun _ _ h => absurd h (Nat.lt_irrefl _)) ?_
    (hd.imp fun hge hlt => absurd hlt (Nat.not_lt.mpr hge))
  rw [← List.map_fst_zip hlen, List.pairwise_map]
  refine hp.imp_of_mem fun h1 h2 h => ?_
  rw [lookupPower_of_mem_zip hid hnd h1, lookupPower_of_mem_zip hid hnd h2]
  exact h

end ICS.Shaping
