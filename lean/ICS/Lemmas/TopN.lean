/-
  The LegacyDec arithmetic of the Top-N threshold and the opt-in fold of the epoch computation.
-/
import ICS.Model.TopN
import ICS.Model.Epoch
namespace ICS.TopN

/-- the rounded quotient is not below `x / prec` and not more than a half above it: below the half
    it is `x / prec`, from the half on it is that or the next integer, whichever way a tie goes -/
theorem chopRound_bounds (x : Nat) : x / prec ≤ chopRound x ∧ chopRound x * prec ≤ x + prec / 2 := by
  have hP : prec = prec / 2 + prec / 2 := by decide
  have down := And.intro (Nat.le_refl (x / prec))
    (Nat.le_add_right_of_le (k := prec / 2) (Nat.div_mul_le_self x prec))
  unfold chopRound
  dsimp only
  by_cases h1 : x % prec < prec / 2
  · rw [if_pos h1]
    exact down
  · have up : (x / prec + 1) * prec ≤ x + prec / 2 := by
      -- with `q`, `r` the quotient and remainder, `h` the half:  q * P + (h + h) ≤ q * P + (r + h) = x + h
      rw [Nat.succ_mul]
      refine Nat.le_trans (Nat.add_le_add_left (Nat.le_trans (Nat.le_of_eq hP)
        (Nat.add_le_add_right (Nat.not_lt.mp h1) _)) _) (Nat.le_of_eq ?_)
      rw [← Nat.add_assoc, Nat.div_add_mod']
    rw [if_neg h1]
    split
    · exact ⟨Nat.le_succ _, up⟩
    · split
      · exact down
      · exact ⟨Nat.le_succ _, up⟩

/-- a quotient `A * M / b` comes within `h` of a multiple of `M` only by reaching it, as long as
    one unit of `A` weighs more than `h` (`M / b > h`) -/
theorem le_of_mul_le_mul_div_add {A M b h n : Nat} (hh : h * b < M) (hle : n * M ≤ A * M / b + h) :
    n * b ≤ A :=
  Nat.le_of_not_lt fun hlt => Nat.lt_irrefl (A * M + M) <| calc
    A * M + M = (A + 1) * M := (Nat.succ_mul A M).symm
    _ ≤ n * b * M := Nat.mul_le_mul_right M hlt
    _ = n * M * b := Nat.mul_right_comm n b M
    _ ≤ (A * M / b + h) * b := Nat.mul_le_mul_right b hle
    _ = A * M / b * b + h * b := Nat.add_mul ..
    _ ≤ A * M + h * b := Nat.add_le_add_right (Nat.div_mul_le_self ..) _
    _ < A * M + M := Nat.add_lt_add_left hh _

/-- Any rounding `R` of `X / P`, for `X = A * (c * P) / b`, between the floor and half up compares
    with `n * c` as `A` with `n * b`: `X` is not in the window of width `h` below `n * (c * P)`. -/
theorem round_ge_iff {A P R b c h n : Nat} (hP : 0 < P) (hb : 0 < b) (hh : h * b < c * P)
    (lo : A * (c * P) / b / P ≤ R) (hi : R * P ≤ A * (c * P) / b + h) : n * c ≤ R ↔ n * b ≤ A := by
  constructor
  · intro hge
    refine le_of_mul_le_mul_div_add hh ?_
    rw [← Nat.mul_assoc]
    exact Nat.le_trans (Nat.mul_le_mul_right P hge) hi
  · intro hle
    refine Nat.le_trans ((Nat.le_div_iff_mul_le hP).mpr ((Nat.le_div_iff_mul_le hb).mpr ?_)) lo
    rw [Nat.mul_assoc n c P, Nat.mul_right_comm n (c * P) b]
    exact Nat.mul_le_mul_right (c * P) hle

/-- `LegacyNewDec(a).Quo(LegacyNewDec(b)) ≥ LegacyNewDec(n).QuoInt64(100)` is the exact comparison
    `100·a ≥ n·b` for every total below 2·10^16 (`round_ge_iff` with `c * P = 10^34`, `h = 5·10^17`):
    the rounding of the quotient can change the comparison only for larger totals. -/
theorem decQuo_ge_threshold (a n : Nat) {b : Nat} (hb : 0 < b) (hlt : b < 20000000000000000) :
    decQuo a b ≥ threshold n ↔ 100 * a ≥ n * b := by
  have hP : 0 < prec := by decide
  have hPP : prec * prec = 100 * (prec / 100 * prec) := by decide
  have hM : prec / 2 * 20000000000000000 = prec / 100 * prec := by decide
  have hh : prec / 2 * b < prec / 100 * prec := hM ▸ Nat.mul_lt_mul_of_pos_left hlt (by decide)
  have hX : a * prec * (prec * prec) / (b * prec) = 100 * a * (prec / 100 * prec) / b := by
    rw [← Nat.mul_assoc, Nat.mul_div_mul_right _ _ hP, Nat.mul_assoc a, hPP, ← Nat.mul_assoc a,
      Nat.mul_comm a]
  have ht : threshold n = n * (prec / 100) := Nat.mul_div_assoc n (by decide)
  unfold decQuo
  rw [hX, ht]
  exact round_ge_iff hP hb hh (chopRound_bounds _).1 (chopRound_bounds _).2

end ICS.TopN

namespace ICS.Epoch

theorem mem_optinStep (stk : List SVal) (mp : Nat) (acc : List Nat) (a w : Nat) :
    w ∈ (if lastPower stk a ≥ mp ∧ ¬ acc.contains a then acc ++ [a] else acc) ↔
      w ∈ acc ∨ (w = a ∧ lastPower stk w ≥ mp) := by
  split
  next h =>
    rw [List.mem_append, List.mem_singleton]
    exact or_congr_right ⟨fun e => ⟨e, e ▸ h.1⟩, And.left⟩
  next h =>
    refine ⟨Or.inl, fun h' => h'.elim id fun ⟨e, hp⟩ => ?_⟩
    subst e
    exact List.contains_iff_mem.mp (Decidable.not_not.mp fun hc => h ⟨hp, hc⟩)

/-- OptInTopNValidators adds exactly the active validators at or above the threshold -/
theorem mem_optinAfter (inp : Input) (mp w : Nat) :
    w ∈ optinAfter inp mp ↔ w ∈ inp.optin ∨ (w ∈ active inp ∧ lastPower inp.stk w ≥ mp) := by
  unfold optinAfter
  generalize inp.optin = acc
  induction active inp generalizing acc with
  | nil => simp only [List.foldl_nil, List.not_mem_nil, false_and, or_false]
  | cons a l ih => rw [List.foldl_cons, ih, mem_optinStep, List.mem_cons, or_assoc, ← or_and_right]

end ICS.Epoch
