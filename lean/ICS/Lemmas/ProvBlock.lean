/-
  EndBlock's id bookkeeping and the channel handshake: what `setV2H` / `setH2V`, `queueOne`,
  `chanOpenConfirm` (provider) and `onRecvVSC` (consumer) do, said once per function.
-/
import ICS.Lemmas.Prov
import ICS.Lemmas.Sort
import ICS.Model.Consumer
namespace ICS

namespace Provider

/-- the id ↦ height map is written like a store: the entry of `id` is replaced, or a new entry is
    put in its place in key order; either way `id` then finds the new entry -/
theorem find?_setV2H (m : List (Nat × Nat)) (id h : Nat) :
    (setV2H m id h).find? (·.1 == id) = some (id, h) := by
  unfold setV2H
  by_cases ha : m.any (·.1 == id) = true
  · have hup := find?_upsert Prod.fst m (id, h) id
    rw [if_pos ha, if_pos (beq_iff_eq.mpr rfl)] at hup
    rw [if_pos ha]; exact hup
  · -- sorting only permutes, and no entry of `m` has the key `id`
    rw [if_neg ha]
    refine find?_eq_some_of_unique
      ((isort_perm _ _).mem_iff.mpr (List.mem_append_right _ (List.mem_singleton_self _)))
      (beq_iff_eq.mpr rfl) fun e he hk => ?_
    rcases List.mem_append.mp ((isort_perm _ _).mem_iff.mp he) with h1 | h1
    · exact absurd (List.any_eq_true.mpr ⟨e, h1, hk⟩) ha
    · exact List.mem_singleton.mp h1

/-- QueueVSCPackets for one consumer: nothing is written, or one consumer record -/
theorem queueOne_some {s s' : State} {c : CId} (h : queueOne s c = some s') :
    s' = s ∨ ∃ x, s' = s.set x := by
  unfold queueOne at h
  dsimp only at h
  by_cases hp : ((s.get c).phase != .launched) = true
  · rw [if_pos hp] at h; exact Or.inl (Option.some.inj h).symm
  · rw [if_neg hp] at h
    split at h
    · cases h
    · split at h
      · cases h
      · exact Or.inr ⟨_, (Option.some.inj h).symm⟩

/-- OnChanOpenConfirm succeeds over exactly one connection, to a tendermint client recorded for a
    consumer without a channel; it writes the channel and the opening height into that consumer's
    record, and the channel index -/
theorem chanOpenConfirm_some {s s' : State} {ch : String} {hops : Option (List String)}
    {connOf : String → Option ConnInfo} (h : chanOpenConfirm s ch hops connOf = some s') :
    ∃ hop ci c, hops = some [hop] ∧ connOf hop = some ci ∧ ci.isTM = true ∧
      s.client2c.find? (·.1 == ci.client) = some (ci.client, c) ∧ (s.get c).channel = none ∧
      ∃ q, s' = { s.set { s.get c with channel := some ch, initH := some s.height } with chan2c := q } := by
  unfold chanOpenConfirm at h
  split at h
  · rename_i hop
    split at h
    · rename_i ci hci
      by_cases htm : (!ci.isTM) = true
      · rw [if_pos htm] at h; cases h
      · rw [if_neg htm] at h
        split at h
        · rename_i e he
          dsimp only at h
          by_cases hch : (s.get e.2).channel.isSome = true
          · rw [if_pos hch] at h; cases h
          · rw [if_neg hch] at h
            exact ⟨hop, ci, e.2, rfl, hci, by simpa using htm, find?_fst_eq_some he, by simpa using hch, _,
              (Option.some.inj h).symm⟩
        · cases h
    · cases h
  · cases h

end Provider

namespace Consumer

theorem setH2V_eq_setV2H : setH2V = Provider.setV2H := rfl

theorem getH2V_setH2V (m : List (Nat × Nat)) (h id : Nat) : getH2V (setH2V m h id) h = id := by
  unfold getH2V
  rw [setH2V_eq_setV2H, Provider.find?_setV2H]

/-- OnRecvVSCPacket with a well-formed packet: accepted on the provider channel, or on any channel
    while there is none yet, which then becomes the provider channel; a panic on any other -/
theorem onRecvVSC_eq (rank : Nat → Nat) (s : State) (chan : String) (id : Nat) (ups : List ValSet.Update)
    (acks : List Nat) (hid : id ≠ 0) :
    onRecvVSC rank s chan id (some ups) acks =
      if s.pchan = some chan ∨ s.pchan = none then
        ({ s with pchan := some chan,
                  pending := some (ValSet.accumulate rank (s.pending.getD []) ups),
                  h2v := setH2V s.h2v (s.height + 1) id,
                  outstanding := s.outstanding.filter fun k => !acks.contains k }, .ok)
      else (s, .panic) := by
  unfold onRecvVSC
  dsimp only
  rw [if_neg fun hz => hid (eq_of_beq hz)]
  cases hp : s.pchan with
  | none => rw [if_pos (Or.inr rfl)]
  | some pc =>
    dsimp only
    by_cases hc : pc = chan
    · subst hc; rw [if_neg (by simp), if_pos (Or.inl rfl)]
    · rw [if_pos (by simpa using hc), if_neg (by simpa using hc)]

end Consumer
end ICS
