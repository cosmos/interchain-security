/-
  What an accepted message went through: inversion lemmas for the message handlers of the provider.
-/
import ICS.Lemmas.Prov
namespace ICS.Provider

/-- ValidateBasic of MsgOptIn, MsgOptOut and MsgAssignConsumerKey, the first guard of their handlers -/
theorem validateBasic_some {α : Type} {c : CId} {v signer : Nat} {rest : Option α} {r : α}
    (h : (if !validConsumerId c || signer != v then none else rest) = some r) :
    validConsumerId c = true ∧ signer = v ∧ rest = some r := by
  obtain ⟨hg, hr⟩ := Option.ite_none_left_eq_some.mp h
  simp only [Bool.or_eq_true, Bool.not_eq_true', bne_iff_ne, ne_eq, not_or, Bool.not_eq_false,
    Decidable.not_not] at hg
  exact ⟨hg.1, hg.2, hr⟩

/-! `updateCore` threads an `Option` through its stages with `match r with | none => none | some x => …`
    and `if`.  The next three lemmas take such a step apart.  The two about `match` are stated at the
    types of the model, where their `match` is the very matcher constant of the model's, so that they
    apply to `updateCore` unfolded without any rewriting of the (large) rest of the handler. -/

theorem ite_some_cases {α : Type} {c : Prop} [Decidable c] {t e : Option α} {z : α}
    (h : (if c then t else e) = some z) : t = some z ∨ e = some z := by
  split at h
  · exact Or.inl h
  · exact Or.inr h

theorem consumer_step_some {β : Type} {o : Option Consumer} {f : Consumer → Option β} {r : β}
    (h : (match o with | none => none | some x => f x) = some r) : ∃ x, o = some x ∧ f x = some r := by
  cases o with
  | none => cases h
  | some x => exact ⟨x, rfl, h⟩

theorem state_consumer_step_some {β : Type} {o : Option (State × Consumer)} {f : State → Consumer → Option β}
    {r : β} (h : (match o with | none => none | some (s, x) => f s x) = some r) :
    ∃ s x, o = some (s, x) ∧ f s x = some r := by
  cases o with
  | none => cases h
  | some p => exact ⟨p.1, p.2, rfl, h⟩

theorem updateMinPower_some {s : State} {x y : Consumer} {o n : Nat} (h : updateMinPower s x o n = some y) :
    ∃ m, y = { x with minpow := m } := by
  unfold updateMinPower at h
  rcases ite_some_cases h with h | h
  · rcases ite_some_cases h with h | h
    · dsimp only at h
      split at h
      · exact ⟨_, (Option.some.inj h).symm⟩
      · cases h
    · exact ⟨_, (Option.some.inj h).symm⟩
  · exact ⟨_, (Option.some.inj h).symm⟩

/-- An accepted MsgUpdateConsumer passed `updateGuard`, and the record it leaves has the revision
    of its initial height equal to that of its (possibly new) chain id. -/
theorem updateCore_some {s : State} {a : UpdateArgs} {r : State × Time} (h : updateCore s a = some r) :
    updateGuard s a = true ∧ (r.1.get a.c).initRev = (r.1.get a.c).chainRev := by
  unfold updateCore at h
  -- the guard, then the four stages that can fail (`replace` first: `obtain` from the term would keep
  -- every earlier, larger `h` in the context and type-check the new one once more)
  replace h := Option.ite_none_left_eq_some.mp h
  obtain ⟨hg, h⟩ := h
  replace h := consumer_step_some h
  obtain ⟨x1, h1, h⟩ := h
  replace h := consumer_step_some h
  obtain ⟨x2, h2, h⟩ := h
  replace h := state_consumer_step_some h
  obtain ⟨s3, x3, h3, h⟩ := h
  replace h := consumer_step_some h
  obtain ⟨x4, h4, h⟩ := h
  -- Every stage returns the record it was given with some fields replaced, never `id`.
  -- (Equations between records are used on the goal only: `cases` would rewrite all of `h`.)
  have id1 : x1.id = a.c := by
    rcases ite_some_cases h1 with h1 | h1
    · have h1 := (Option.ite_none_left_eq_some.mp h1).2
      have h1 := (Option.ite_none_right_eq_some.mp h1).2
      exact Option.some.inj h1 ▸ get_id s a.c
    · exact Option.some.inj h1 ▸ get_id s a.c
  have id2 : x2.id = a.c := by
    split at h2
    · exact Option.some.inj h2 ▸ id1
    · exact Option.some.inj (Option.ite_none_left_eq_some.mp h2).2 ▸ id1
  -- The stage of the initialization parameters ends, on either path, with the check of the
  -- initial-height revision against `chainRev`.
  have r3 : x3.id = a.c ∧ x3.initRev = x3.chainRev := by
    split at h3
    · obtain ⟨hne, h3⟩ := Option.ite_none_left_eq_some.mp h3
      have hx : x2 = x3 := (Prod.mk.inj (Option.some.inj h3)).2
      exact hx ▸ ⟨id2, bne_eq_false_iff_eq.mp (Bool.of_not_eq_true hne)⟩
    · replace h3 := state_consumer_step_some (Option.ite_none_left_eq_some.mp h3).2
      obtain ⟨s', x', hr, h3⟩ := h3
      obtain ⟨hne, h3⟩ := Option.ite_none_left_eq_some.mp h3
      have id' : x'.id = a.c := by
        rcases ite_some_cases hr with hr | hr
        · split at hr
          · cases hr
          · exact (Prod.mk.inj (Option.some.inj hr)).2 ▸ id2
        · exact (Prod.mk.inj (Option.some.inj hr)).2 ▸ id2
      exact (Prod.mk.inj (Option.some.inj h3)).2 ▸ ⟨id', bne_eq_false_iff_eq.mp (Bool.of_not_eq_true hne)⟩
  -- Power shaping and the infraction parameters leave `initRev` and `chainRev` alone.
  have r4 : x4.id = a.c ∧ x4.initRev = x4.chainRev := by
    split at h4
    · exact Option.some.inj h4 ▸ r3
    · obtain ⟨m, hm⟩ := updateMinPower_some (Option.ite_none_left_eq_some.mp h4).2
      exact hm ▸ r3
  have base : (s3.set x4).get a.c = x4 := get_set_id s3 x4 a.c r4.1
  refine ⟨by simpa using hg, ?_⟩
  rw [← Option.some.inj h]
  dsimp only
  split
  · rw [base]; exact r4.2
  · by_cases hp : isPrelaunched x4.phase = true
    · rw [if_pos hp, get_set, if_pos r4.1]; exact r4.2
    · rw [if_neg hp, updateQueuedInfr_get, base]; exact r4.2

/-- MsgUpdateConsumer is `updateCore`, the cross check of owner and Top-N on what it wrote, and the
    (re)scheduling of the launch -/
theorem updateConsumer_some {s s' : State} {a : UpdateArgs} (h : updateConsumer s a = some s') :
    ∃ s1 prev, updateCore s a = some (s1, prev) ∧
      (((s1.get a.c).ps.getD {}).topN ≠ 0 → (s1.get a.c).owner = s1.authority) ∧
      initializeAndPrepare s1 a.c prev = some s' := by
  unfold updateConsumer at h
  cases hc : updateCore s a with
  | none => rw [hc] at h; cases h
  | some r =>
    obtain ⟨s1, prev⟩ := r
    rw [hc] at h
    obtain ⟨hchk, h⟩ := Option.ite_none_left_eq_some.mp h
    refine ⟨s1, prev, rfl, ?_, h⟩
    simpa only [Bool.and_eq_true, bne_iff_ne, ne_eq, not_and, Decidable.not_not] using hchk

open ICS.Epoch in
/-- MsgOptOut: who may opt out of what, and what it changes.  On a Top-N consumer only a validator
    strictly below the stored threshold may. -/
theorem msgOptOut_eq_some (s s' : State) (c : CId) (v signer : Nat) :
    msgOptOut s c v signer = some s' ↔
      validConsumerId c ∧ signer = v ∧ valExists s v ∧ (s.get c).phase = .launched ∧
      (((s.get c).ps.getD {}).topN > 0 → ∃ mp, (s.get c).minpow = some mp ∧ lastPower s.stk v < mp) ∧
      s.set { s.get c with optin := (s.get c).optin.filter (· != v) } = s' := by
  unfold msgOptOut
  simp only [Option.ite_none_left_eq_some, Option.some.injEq, Bool.or_eq_true, Bool.not_eq_true',
    bne_iff_ne, ne_eq, not_or, Bool.not_eq_false, Decidable.not_not, and_assoc, Bool.ite_else_false,
    not_and]
  cases (s.get c).minpow with
  | none => simp only [not_true_eq_false, reduceCtorEq, false_and, exists_false]
  | some m => simp only [decide_eq_true_eq, Nat.not_le, Option.some.injEq, exists_eq_left']

end ICS.Provider
