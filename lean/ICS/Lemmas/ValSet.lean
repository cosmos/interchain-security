/-
  The validator-set algebra read through `find?`: `lookup l k` is the power of the first entry of `l`
  with key `k`, `applyF us f k` the power of the last entry of `us` with key `k` (else `f k`).
  Where keys are distinct the two coincide, and every operation of the model (`diff`, the Go map
  write `mapInsert`, `applyOne`) is described by what it does to `find?`.
-/
import ICS.Model.ValSet
import ICS.Lemmas.List
import ICS.Lemmas.Sort
namespace ICS

namespace ValSet

theorem key_of_find? {l : List Val} {k : Nat} {v : Val} (h : l.find? (·.key == k) = some v) :
    v.key = k := eq_of_beq (List.find?_some (p := fun x : Val => x.key == k) h)

theorem lookup_eq (l : List Val) (k : Nat) :
    lookup l k = (l.find? (·.key == k)).elim 0 (·.power) := by
  unfold lookup; cases l.find? (·.key == k) <;> rfl

/-! ### applyF -/

theorem applyF_append (a b : List Update) (f : Nat → Nat) :
    applyF (a ++ b) f = applyF b (applyF a f) := List.foldl_append

theorem applyF_cons (u : Update) (us : List Update) (f : Nat → Nat) :
    applyF (u :: us) f = applyF us (fun k => if k = u.key then u.power else f k) := rfl

/-- Updates produced entry by entry (`g`, keeping the key) from a list with distinct keys: key `k` gets
    the power of the update produced from the entry with key `k`, if there is one. -/
theorem applyF_filterMap {g : Val → Option Update} (hg : ∀ x y, g x = some y → y.key = x.key)
    {l : List Val} (hnd : (l.map (·.key)).Nodup) (f : Nat → Nat) (k : Nat) :
    applyF (l.filterMap g) f k = ((l.find? (·.key == k)).bind g).elim (f k) (·.power) := by
  induction l generalizing f with
  | nil => rfl
  | cons a l ih =>
    rw [List.map_cons, List.nodup_cons] at hnd
    by_cases hk : a.key = k
    · -- `a` is the entry with key `k`: no entry of `l` has this key, so nothing overrides `g a`
      subst hk
      have hl : l.find? (·.key == a.key) = none := List.find?_eq_none.mpr fun x hx hxk =>
        hnd.1 (List.mem_map.mpr ⟨x, hx, eq_of_beq hxk⟩)
      simp only [List.find?_cons, beq_self_eq_true, Option.bind_some]
      cases hga : g a with
      | none => rw [List.filterMap_cons_none hga, ih hnd.2, hl]; rfl
      | some y =>
        rw [List.filterMap_cons_some hga, applyF_cons, ih hnd.2, hl]
        exact if_pos (hg a y hga).symm
    · simp only [List.find?_cons, beq_false_of_ne hk]
      cases hga : g a with
      | none => rw [List.filterMap_cons_none hga, ih hnd.2]
      | some y =>
        rw [List.filterMap_cons_some hga, applyF_cons, ih hnd.2,
          if_neg fun h => hk ((hg a y hga).symm.trans h.symm)]

/-- with distinct keys, the last entry with key `k` is the first -/
theorem applyF_eq_find? {us : List Update} (hnd : (us.map (·.key)).Nodup) (f : Nat → Nat) (k : Nat) :
    applyF us f k = (us.find? (·.key == k)).elim (f k) (·.power) := by
  have := applyF_filterMap (g := some) (fun _ _ h => by cases h; rfl) hnd f k
  rwa [List.filterMap_some, Option.bind_fun_some] at this

/-- value of `applyF` over a list with distinct keys, by membership -/
theorem applyF_nodup_val (us : List Update) (f : Nat → Nat) (k : Nat) (hnd : (us.map (·.key)).Nodup) :
    (∃ u ∈ us, u.key = k ∧ applyF us f k = u.power) ∨ ((∀ u ∈ us, u.key ≠ k) ∧ applyF us f k = f k) := by
  rw [applyF_eq_find? hnd]
  cases h : us.find? (·.key == k) with
  | some u => exact .inl ⟨u, List.mem_of_find?_eq_some h, key_of_find? h, rfl⟩
  | none => exact .inr ⟨fun u hu hk => List.find?_eq_none.mp h u hu (beq_iff_eq.mpr hk), rfl⟩

theorem applyF_perm {l₁ l₂ : List Update} (hp : l₁.Perm l₂) (hnd : (l₁.map (·.key)).Nodup)
    (f : Nat → Nat) : applyF l₁ f = applyF l₂ f := by
  refine hp.foldl_eq' (fun x hx y hy g => funext fun k => ?_) f
  dsimp only
  by_cases hxy : x.key = y.key
  · rw [eq_of_key_eq hnd hx hy hxy]
  · by_cases hk : k = x.key
    · rw [if_pos hk, if_pos hk, if_neg fun h => hxy (hk.symm.trans h)]
    · rw [if_neg hk, if_neg hk]

/-! ### the Go map -/

theorem find?_mapInsert (m : List Update) (u : Update) (k : Nat) :
    (mapInsert m u).find? (·.key == k) = if k = u.key then some u else m.find? (·.key == k) :=
  (find?_upsert Val.key m u k).trans (ite_cond_congr (propext (beq_iff_eq.trans eq_comm)))

theorem mapInsert_forall {P : Update → Prop} {m : List Update} {u : Update} (hm : ∀ x ∈ m, P x) (hu : P u) :
    ∀ x ∈ mapInsert m u, P x := by
  unfold mapInsert
  by_cases hany : m.any (·.key == u.key) = true
  · rw [if_pos hany]
    refine List.forall_mem_map.mpr fun y hy => ?_
    split
    · exact hu
    · exact hm y hy
  · rw [if_neg hany]
    exact List.forall_mem_append.mpr ⟨hm, List.forall_mem_singleton.mpr hu⟩

theorem mapInsert_nodup (m : List Update) (u : Update) (hnd : (m.map (·.key)).Nodup) :
    ((mapInsert m u).map (·.key)).Nodup := by
  unfold mapInsert
  by_cases hany : m.any (·.key == u.key) = true
  · rw [if_pos hany, List.map_map, List.map_congr_left (g := (·.key)) fun x _ => ?_]
    · exact hnd
    · exact (apply_ite Val.key ..).trans (ite_eq_right_iff.mpr fun hxu => (eq_of_beq hxu).symm)
  · rw [if_neg hany, List.map_append, List.map_singleton, (List.perm_append_singleton _ _).nodup_iff,
      List.nodup_cons]
    refine ⟨fun hu => hany ?_, hnd⟩
    obtain ⟨x, hx, hxu⟩ := List.mem_map.mp hu
    exact List.any_eq_true.mpr ⟨x, hx, beq_iff_eq.mpr hxu⟩

theorem toMap_nodup (us : List Update) : ((toMap us).map (·.key)).Nodup :=
  foldl_inv (fun m => (m.map Val.key).Nodup) List.nodup_nil fun m u _ => mapInsert_nodup m u

theorem toMap_effect (us : List Update) (f : Nat → Nat) : applyF (toMap us) f = applyF us f := by
  refine (funext (applyF_eq_find? (toMap_nodup us) f)).trans (List.foldl_hom (init := [])
    (fun m k => (m.find? (Val.key · == k)).elim (f k) Val.power) fun m u => funext fun k => ?_).symm
  rw [find?_mapInsert]
  split <;> rfl

/-! ### the comparator of AccumulateChanges -/

theorem accLE_iff (rank : Nat → Nat) (a b : Update) :
    accLE rank a b = true ↔ b.power < a.power ∨ a.power = b.power ∧ rank b.key ≤ rank a.key := by
  simp only [accLE, Bool.or_eq_true, Bool.and_eq_true, decide_eq_true_eq, beq_iff_eq, GT.gt, GE.ge]

theorem accLE_trans (rank : Nat → Nat) (a b c : Update) :
    accLE rank a b = true → accLE rank b c = true → accLE rank a c = true := by
  simp only [accLE_iff]
  rintro (hab | ⟨hab, rab⟩) (hbc | ⟨hbc, rbc⟩)
  · exact .inl (Nat.lt_trans hbc hab)
  · exact .inl (hbc ▸ hab)
  · exact .inl (hab ▸ hbc)
  · exact .inr ⟨hab.trans hbc, Nat.le_trans rbc rab⟩

theorem accLE_total (rank : Nat → Nat) (a b : Update) : (accLE rank a b || accLE rank b a) = true := by
  simp only [Bool.or_eq_true, accLE_iff]
  rcases Nat.lt_trichotomy a.power b.power with h | h | h
  · exact .inr (.inl h)
  · exact (Nat.le_total (rank a.key) (rank b.key)).symm.imp (.inr ⟨h, ·⟩) (.inr ⟨h.symm, ·⟩)
  · exact .inl (.inl h)

theorem accLE_antisymm (rank : Nat → Nat) (a b : Update) :
    accLE rank a b = true → accLE rank b a = true → rank a.key = rank b.key := by
  simp only [accLE_iff]
  rintro (hab | ⟨hab, rab⟩) (hba | ⟨hba, rba⟩)
  · exact absurd hab (Nat.lt_asymm hba)
  · exact absurd hab (hba ▸ Nat.lt_irrefl _)
  · exact absurd hba (hab ▸ Nat.lt_irrefl _)
  · exact Nat.le_antisymm rba rab

/-! ### ApplyCCValidatorChanges -/

/-- invariant of the stored cross-chain validator set -/
def CCWF (cc : List Val) : Prop := (cc.map (·.key)).Nodup ∧ ∀ v ∈ cc, 0 < v.power

theorem lookup_pos_of_any (cc : List Val) (k : Nat) (hwf : CCWF cc)
    (h : cc.any (fun v => v.key == k) = true) : 0 < lookup cc k := by
  obtain ⟨v, hf⟩ := Option.isSome_iff_exists.mp (List.find?_isSome.mpr (List.any_eq_true.mp h))
  rw [lookup_eq, hf]
  exact hwf.2 v (List.mem_of_find?_eq_some hf)

theorem find?_filter_ne (cc : List Val) (k k' : Nat) :
    (cc.filter (·.key != k')).find? (·.key == k) = if k = k' then none else cc.find? (·.key == k) :=
  (find?_filter_key Val.key (· == k') cc k).trans (ite_cond_congr (propext beq_iff_eq))

theorem filter_key_ne_self {cc : List Val} {k : Nat} (h : cc.any (·.key == k) = false) :
    cc.filter (·.key != k) = cc :=
  List.filter_eq_self.mpr fun v hv => bne_iff_ne.mpr fun hk =>
    List.any_eq_false.mp h v hv (beq_iff_eq.mpr hk)

/-- A change of power 0 deletes the key (and is forwarded if the key was there); any other change is
    a write to the Go map. -/
theorem applyOne_eq (cc : List Val) (ch : Update) :
    applyOne cc ch =
      if ch.power = 0 then (cc.filter (·.key != ch.key), cc.any (·.key == ch.key))
      else (mapInsert cc ch, true) := by
  unfold applyOne mapInsert
  by_cases hany : cc.any (·.key == ch.key) = true
  · rw [if_pos hany]
    by_cases hp : ch.power = 0
    · rw [if_pos hp, if_pos (Nat.lt_one_iff.mpr hp), hany]
    · -- an entry with the key of `ch` and the power of `ch` is `ch`
      rw [if_neg hp, if_neg (mt Nat.lt_one_iff.mp hp), if_pos hany]
      refine congrArg (·, true) (List.map_congr_left fun v _ => ?_)
      split
      next hv => rw [eq_of_beq hv]
      next => rfl
  · rw [if_neg hany]
    by_cases hp : ch.power = 0
    · have hany := eq_false_of_ne_true hany
      rw [if_pos hp, if_neg (Nat.not_lt.mpr (Nat.le_of_eq hp)), hany, filter_key_ne_self hany]
    · rw [if_neg hp, if_pos (Nat.pos_of_ne_zero hp), if_neg hany]

theorem applyOne_wf {cc : List Val} (hwf : CCWF cc) (ch : Update) : CCWF (applyOne cc ch).1 := by
  rw [applyOne_eq]
  split
  next => exact ⟨(List.filter_sublist.map _).nodup hwf.1, fun v hv => hwf.2 v (List.mem_filter.mp hv).1⟩
  next hp => exact ⟨mapInsert_nodup cc ch hwf.1, mapInsert_forall hwf.2 (Nat.pos_of_ne_zero hp)⟩

theorem lookup_applyOne (cc : List Val) (ch : Update) :
    lookup (applyOne cc ch).1 = applyF [ch] (lookup cc) := by
  funext k
  show _ = if k = ch.key then ch.power else lookup cc k
  rw [applyOne_eq, lookup_eq, lookup_eq]
  by_cases hp : ch.power = 0
  · rw [if_pos hp, find?_filter_ne, hp]
    split <;> rfl
  · rw [if_neg hp, find?_mapInsert]
    split <;> rfl

/-- only the deletion of an absent key is not forwarded, and it changes nothing -/
theorem applyOne_skip {cc : List Val} {ch : Update} (h : (applyOne cc ch).2 = false) :
    (applyOne cc ch).1 = cc := by
  rw [applyOne_eq] at h ⊢
  split at h
  next hp =>
    rw [if_pos hp]
    exact filter_key_ne_self h
  next => cases h

/-- the stored set afterwards is the old set overridden by the changes, later entries winning -/
theorem lookup_applyCC (cc : List Val) (changes : List Update) :
    lookup (applyCC cc changes).1 = applyF changes (lookup cc) :=
  (List.foldl_hom (fun st : List Val × List Update => lookup st.1)
    fun st ch => (lookup_applyOne st.1 ch).symm).symm

/-- the forwarded updates have the same effect on the old set as the changes had on the store -/
theorem applyF_applyCC (cc : List Val) (changes : List Update) :
    applyF (applyCC cc changes).2 (lookup cc) = lookup (applyCC cc changes).1 := by
  refine foldl_inv (fun st : List Val × List Update => applyF st.2 (lookup cc) = lookup st.1) rfl
    fun st ch _ hst => ?_
  dsimp only
  cases hf : (applyOne st.1 ch).2 with
  | true => rw [if_pos rfl, applyF_append, hst, lookup_applyOne]
  | false => rw [if_neg Bool.false_ne_true, hst, applyOne_skip hf]

end ValSet
end ICS
