/-
  The power-cap redistribution loop `capLoop`, the set cap and the priority ranking.

  `noMoreThanPercentOfTheSum` runs the loop on a list sorted by descending power with
  `k = countLow`.  Such a list is a run of validators at or above the cap `m` followed by a run below
  it (`Desc.high_low`).  Over the first run the loop only writes `m`; in the second `k` is the number
  of validators left and each gains `min room share` (`capLoop_cons_low`).  The total (`Σ + rem` or
  `n·m`, whichever is smaller) and the order are therefore proved of the loop on an all-low list with
  `k` = its length (`capLoop_low_*`), where `countLow` and `excess` do not occur, and lifted by
  `Desc.high_low`.  A total of `n·m` with nobody above `m` puts everybody at `m` (the infeasible case).
-/
import ICS.Model.Shaping
import ICS.Lemmas.Sort
namespace ICS.Shaping

/-- descending by power -/
def Desc (l : List CV) : Prop := l.Pairwise fun a b => a.power ≥ b.power

theorem sortDesc_perm (l : List CV) : (sortDesc l).Perm l := isort_perm _ _

theorem sortDesc_desc (l : List CV) : Desc (sortDesc l) := isort_desc CV.power l

theorem sumPower_perm {a b : List CV} (h : a.Perm b) : sumPower a = sumPower b :=
  (h.map _).sum_nat

theorem sumPower_cons (v : CV) (l : List CV) : sumPower (v :: l) = v.power + sumPower l :=
  List.sum_cons

theorem sumPower_le {b : Nat} {l : List CV} (h : ∀ x ∈ l, x.power ≤ b) : sumPower l ≤ l.length * b := by
  induction l with
  | nil => exact Nat.zero_le _
  | cons v vs ih =>
    rw [sumPower_cons, List.length_cons, Nat.add_one_mul, Nat.add_comm]
    exact Nat.add_le_add (ih fun x hx => h x (List.mem_cons_of_mem _ hx)) (h v List.mem_cons_self)

theorem power_eq_of_sumPower_eq {b : Nat} {l : List CV} (h : ∀ x ∈ l, x.power ≤ b)
    (hs : sumPower l = l.length * b) : ∀ x ∈ l, x.power = b := by
  induction l with
  | nil => nofun
  | cons v vs ih =>
    obtain ⟨hv, h⟩ := List.forall_mem_cons.mp h
    have := sumPower_le h
    rw [sumPower_cons, List.length_cons, Nat.add_one_mul] at hs
    exact List.forall_mem_cons.mpr ⟨by omega, ih h (by omega)⟩

/-! ### one step of the loop (`capLoop` on a cons unfolds by `rfl`: the `if_pos`/`if_neg` below) -/

theorem capLoop_cons_high {m : Nat} {v : CV} (hv : m ≤ v.power) (vs : List CV) (r k : Nat) :
    capLoop m (v :: vs) r k = { v with power := m } :: capLoop m vs r k :=
  if_pos hv

/-- a validator below the cap gains its room `m - power` or the share `rem / k`, whichever is
    smaller (the two inner branches of the loop), and that much is taken from `rem` -/
theorem capLoop_cons_low {m : Nat} {v : CV} (hv : v.power < m) (vs : List CV) (r k : Nat) :
    capLoop m (v :: vs) r k =
      { v with power := v.power + min (m - v.power) (r / k) } ::
        capLoop m vs (r - min (m - v.power) (r / k)) (k - 1) := by
  by_cases hcap : v.power + r / k ≥ m
  · rw [Nat.min_eq_left (Nat.sub_le_iff_le_add'.mpr hcap), Nat.add_sub_cancel' (Nat.le_of_lt hv)]
    exact (if_neg (Nat.not_le.mpr hv)).trans (if_pos hcap)
  · rw [Nat.min_eq_right (Nat.le_of_lt (Nat.lt_sub_iff_add_lt'.mpr (Nat.not_le.mp hcap)))]
    exact (if_neg (Nat.not_le.mpr hv)).trans (if_neg hcap)

/-- every step rewrites the power of the head to something between `min power m` and `m` -/
theorem capLoop_step (m : Nat) (v : CV) (vs : List CV) (r k : Nat) :
    ∃ x r' k', capLoop m (v :: vs) r k = { v with power := x } :: capLoop m vs r' k' ∧
      x ≤ m ∧ min v.power m ≤ x := by
  by_cases hv : m ≤ v.power
  · exact ⟨m, r, k, capLoop_cons_high hv .., Nat.le_refl m, Nat.min_le_right ..⟩
  · have hv := Nat.not_le.mp hv
    exact ⟨_, _, _, capLoop_cons_low hv .., Nat.add_le_of_le_sub' (Nat.le_of_lt hv) (Nat.min_le_left ..),
      Nat.le_trans (Nat.min_le_left ..) (Nat.le_add_right ..)⟩

theorem capLoop_ids (m : Nat) (l : List CV) (r k : Nat) :
    (capLoop m l r k).map (·.id) = l.map (·.id) := by
  induction l generalizing r k with
  | nil => rfl
  | cons v vs ih =>
    obtain ⟨x, r', k', h, -⟩ := capLoop_step m v vs r k
    rw [h, List.map_cons, List.map_cons, ih]

theorem capLoop_length (m : Nat) (l : List CV) (r k : Nat) :
    (capLoop m l r k).length = l.length := by
  have := congrArg List.length (capLoop_ids m l r k)
  rwa [List.length_map, List.length_map] at this

/-- each output comes from an input, raised to at most `m` or lowered to `m` -/
theorem mem_capLoop {m : Nat} {o : CV} {l : List CV} {r k : Nat} (ho : o ∈ capLoop m l r k) :
    o.power ≤ m ∧ ∃ v ∈ l, min v.power m ≤ o.power := by
  induction l generalizing r k with
  | nil => nomatch ho
  | cons v vs ih =>
    obtain ⟨x, r', k', h, hle, hge⟩ := capLoop_step m v vs r k
    rw [h] at ho
    rcases List.mem_cons.mp ho with rfl | ho
    · exact ⟨hle, v, List.mem_cons_self, hge⟩
    · obtain ⟨h1, w, hw, h2⟩ := ih ho
      exact ⟨h1, w, List.mem_cons_of_mem _ hw, h2⟩

/-! ### descending lists: a run at or above the cap, then a run below it -/

theorem countLow_cons_high {m : Nat} {v : CV} (hv : m ≤ v.power) (vs : List CV) :
    countLow m (v :: vs) = countLow m vs :=
  congrArg List.length (List.filter_cons_of_neg (by simpa using hv))

theorem excess_cons_high {m : Nat} {v : CV} (hv : m ≤ v.power) (vs : List CV) :
    excess m (v :: vs) + m = v.power + excess m vs := by
  unfold excess
  rw [List.map_cons, List.sum_cons, if_pos hv, Nat.add_right_comm, Nat.sub_add_cancel hv]

theorem countLow_of_low {m : Nat} {l : List CV} (h : ∀ x ∈ l, x.power < m) :
    countLow m l = l.length :=
  congrArg List.length (List.filter_eq_self.mpr fun x hx => decide_eq_true (h x hx))

theorem excess_of_low {m : Nat} {l : List CV} (h : ∀ x ∈ l, x.power < m) : excess m l = 0 :=
  List.sum_eq_zero_iff_forall_eq_nat.mpr fun _ hn =>
    let ⟨x, hx, e⟩ := List.mem_map.mp hn
    e ▸ if_neg (Nat.not_le.mpr (h x hx))

/-- A descending list is a run of validators at or above `m` followed by validators all below `m`.
    `capLoop` steps over the first run leaving `rem` and `k` alone (`capLoop_cons_high`) and enters
    the second with `k` = its length (`countLow_of_low`).  So a property of the loop on descending
    lists is proved by stepping over a high head and by proving it of descending all-low lists. -/
theorem Desc.high_low (m : Nat) {P : List CV → Prop}
    (high : ∀ v vs, m ≤ v.power → P vs → P (v :: vs))
    (low : ∀ l, Desc l → (∀ x ∈ l, x.power < m) → P l) (l : List CV) (hd : Desc l) : P l := by
  induction l with
  | nil => exact low [] hd nofun
  | cons v vs ih =>
    by_cases hv : m ≤ v.power
    · exact high v vs hv (ih hd.of_cons)
    · refine low _ hd (List.forall_mem_cons.mpr ⟨Nat.not_le.mp hv, fun x hx => ?_⟩)
      exact Nat.lt_of_le_of_lt (List.rel_of_pairwise_cons hd hx) (Nat.not_le.mp hv)

/-! ### the loop on a descending all-low list, `k` = its length

  Rooms grow along the list, so once a validator's share is below its room this is so for all that
  follow. -/

/-- If `R ≤ (n+1)·q`, then after the share `R / (n+1)` is taken out the rest is `≤ n·q`.
    With `q := R / (n+1) + 1` the hypothesis always holds (`sub_share_le_self`). -/
theorem sub_share_le {n q R : Nat} (h : R ≤ (n + 1) * q) : R - R / (n + 1) ≤ n * q := by
  rw [Nat.add_one_mul] at h
  apply Nat.sub_le_of_le_add
  rcases Nat.lt_or_ge (R / (n + 1)) q with hq | hq
  · have := Nat.lt_mul_div_succ R n.add_one_pos
    rw [Nat.add_one_mul] at this
    exact Nat.le_trans (Nat.le_of_lt_succ this) (Nat.add_le_add_right (Nat.mul_le_mul_left n hq) _)
  · exact Nat.le_trans h (Nat.add_le_add_left hq _)

theorem sub_share_le_self (n R : Nat) : R - R / (n + 1) ≤ n * (R / (n + 1) + 1) :=
  sub_share_le (Nat.le_of_lt (Nat.lt_mul_div_succ R n.add_one_pos))

/-- once every room is `> q` and `R ≤ k·(q+1)`, nobody gains more than `q + 1` -/
theorem capLoop_gain_le (m q : Nat) (l : List CV) (R : Nat) (hroom : ∀ x ∈ l, x.power + q + 1 ≤ m)
    (hR : R ≤ l.length * (q + 1)) :
    ∀ p ∈ l.zip (capLoop m l R l.length), p.2.power ≤ p.1.power + q + 1 := by
  induction l generalizing R with
  | nil => nofun
  | cons v vs ih =>
    have hv := hroom v List.mem_cons_self
    have hg : R / (vs.length + 1) ≤ q + 1 := Nat.div_le_of_le_mul hR
    rw [List.length_cons, capLoop_cons_low (Nat.lt_of_le_of_lt (Nat.le_add_right ..) hv),
      Nat.add_sub_cancel, List.zip_cons_cons, List.forall_mem_cons]
    refine ⟨Nat.add_le_add_left (Nat.le_trans (Nat.min_le_right ..) hg) _, ?_⟩
    -- share ≤ q + 1 ≤ room
    rw [Nat.min_eq_right (Nat.le_trans hg (Nat.le_sub_of_add_le' hv))]
    exact ih _ (fun x hx => hroom x (List.mem_cons_of_mem _ hx)) (sub_share_le hR)

/-- all of `rem` is handed out, or every room is filled: the total ends at `Σ + rem` or at `n·m`,
    whichever is smaller -/
theorem capLoop_low_sum (m : Nat) {l : List CV} (hd : Desc l) (hlow : ∀ x ∈ l, x.power < m) (R : Nat) :
    sumPower (capLoop m l R l.length) = min (sumPower l + R) (l.length * m) := by
  induction hd generalizing R with
  | nil =>
    rw [List.length_nil, Nat.zero_mul, Nat.min_zero]
    rfl
  | @cons v vs hle _ ih =>
    obtain ⟨hv, hlow⟩ := List.forall_mem_cons.mp hlow
    have hg := Nat.div_le_self R (vs.length + 1)
    rw [List.length_cons, capLoop_cons_low hv, Nat.add_sub_cancel, sumPower_cons, sumPower_cons, ih hlow,
      Nat.add_one_mul]
    dsimp only
    rcases Nat.lt_or_ge (R / (vs.length + 1)) (m - v.power) with h | h
    · -- share < room: the others have rooms > share, so what is left fits, and so did the whole
      have hfit : sumPower vs + (R - R / (vs.length + 1)) ≤ vs.length * m :=
        Nat.le_trans (Nat.add_le_add (sumPower_le hle) (sub_share_le_self ..))
          (Nat.mul_add .. ▸ Nat.mul_le_mul_left _ (Nat.add_lt_of_lt_sub' h))
      rw [Nat.min_eq_right (Nat.le_of_lt h), Nat.min_eq_left hfit, Nat.min_eq_left (by omega)]
      omega
    · -- room ≤ share: the head is filled
      have : m + (sumPower vs + (R - (m - v.power))) = v.power + sumPower vs + R := by omega
      rw [Nat.min_eq_left h, Nat.add_sub_cancel' (Nat.le_of_lt hv), ← Nat.add_min_add_left, this,
        Nat.add_comm m]

/-- the relation of `capLoop_order` between two (input, output) pairs: strictly more power before
    is not less power after -/
abbrev KeepsOrder (p1 p2 : CV × CV) : Prop := p1.1.power > p2.1.power → p1.2.power ≥ p2.2.power

theorem capLoop_low_order (m : Nat) {l : List CV} (hd : Desc l) (hlow : ∀ x ∈ l, x.power < m) (R : Nat) :
    (l.zip (capLoop m l R l.length)).Pairwise KeepsOrder := by
  induction hd generalizing R with
  | nil => exact .nil
  | @cons v vs hle _ ih =>
    obtain ⟨hv, hlow⟩ := List.forall_mem_cons.mp hlow
    rw [List.length_cons, capLoop_cons_low hv, Nat.add_sub_cancel, List.zip_cons_cons, List.pairwise_cons]
    refine ⟨fun p hp hlt => ?_, ih hlow _⟩
    rcases Nat.lt_or_ge (R / (vs.length + 1)) (m - v.power) with h | h
    · -- `v` gains its share `g < room`; the others have rooms `> g` and gain at most `g + 1`
      rw [Nat.min_eq_right (Nat.le_of_lt h)] at hp ⊢
      have := capLoop_gain_le m (R / (vs.length + 1)) vs _
        (fun x hx => Nat.le_trans (Nat.succ_le_succ (Nat.add_le_add_right (hle x hx) _))
          (Nat.add_lt_of_lt_sub' h))
        (sub_share_le_self ..) p hp
      exact Nat.le_trans this (Nat.add_lt_add_right hlt _)
    · rw [Nat.min_eq_left h, Nat.add_sub_cancel' (Nat.le_of_lt hv)]
      exact (mem_capLoop (List.of_mem_zip hp).2).1

/-! ### the loop as `noMoreThanPercentOfTheSum` calls it: descending list, `k = countLow` -/

/-- what the loop hands out plus what it cuts off (`excess`) balances, up to `n·m` -/
theorem capLoop_sum (m : Nat) : ∀ l, Desc l → ∀ rem,
    sumPower (capLoop m l rem (countLow m l)) + excess m l
      = min (sumPower l + rem) (l.length * m + excess m l) := by
  refine Desc.high_low m ?_ ?_
  · intro v vs hv ih rem
    rw [capLoop_cons_high hv, countLow_cons_high hv, sumPower_cons, sumPower_cons, List.length_cons,
      Nat.add_one_mul]
    have := ih rem
    have := excess_cons_high hv vs
    dsimp only
    omega
  · intro l hd hlow rem
    rw [excess_of_low hlow, countLow_of_low hlow]
    exact capLoop_low_sum m hd hlow rem

/-- order preservation, positional form -/
theorem capLoop_order (m : Nat) : ∀ l, Desc l → ∀ rem,
    (l.zip (capLoop m l rem (countLow m l))).Pairwise KeepsOrder := by
  refine Desc.high_low m ?_ ?_
  · intro v vs hv ih rem
    rw [capLoop_cons_high hv, countLow_cons_high hv, List.zip_cons_cons, List.pairwise_cons]
    exact ⟨fun p hp _ => (mem_capLoop (List.of_mem_zip hp).2).1, ih rem⟩
  · intro l hd hlow rem
    rw [countLow_of_low hlow]
    exact capLoop_low_order m hd hlow rem

theorem sumPower_noMoreThanPercentOfTheSum (vals : List CV) (p : Nat) :
    sumPower (noMoreThanPercentOfTheSum vals p)
      = min (sumPower vals) (vals.length * maxPower (sumPower vals) p) := by
  have hperm := sortDesc_perm vals
  have : sumPower (noMoreThanPercentOfTheSum vals p) + _ = _ := capLoop_sum _ _ (sortDesc_desc vals) _
  rw [Nat.add_min_add_right, hperm.length_eq, sumPower_perm hperm] at this
  exact Nat.add_right_cancel this

theorem noMoreThanPercentOfTheSum_ids (vals : List CV) (p : Nat) :
    ((noMoreThanPercentOfTheSum vals p).map (·.id)).Perm (vals.map (·.id)) := by
  unfold noMoreThanPercentOfTheSum
  rw [capLoop_ids]
  exact (sortDesc_perm vals).map _

theorem capValidatorsPower_ids (c : Nat) (vals : List CV) :
    ((capValidatorsPower c vals).map (·.id)).Perm (vals.map (·.id)) := by
  unfold capValidatorsPower
  split
  · exact noMoreThanPercentOfTheSum_ids vals c
  · exact .refl _

/-! ### set cap and priority ranking -/

/-- the set cap keeps a prefix: the first `k` when it applies, everything otherwise -/
theorem capValidatorSet_eq_take (n k : Nat) (l : List CV) :
    capValidatorSet n k l = l.take (if 0 < n ∨ k = 0 then l.length else k) := by
  unfold capValidatorSet
  by_cases hn : 0 < n
  · rw [if_pos hn, if_pos (Or.inl hn), List.take_length]
  · rw [if_neg hn]
    by_cases hk : k = 0
    · rw [if_neg fun h => h.1 hk, if_pos (Or.inr hk), List.take_length]
    · rw [if_neg (c := 0 < n ∨ k = 0) fun h => h.elim hn hk]
      split
      · rfl
      · next h => exact (List.take_of_length_le (Nat.le_of_not_lt fun hlt => h ⟨hk, hlt⟩)).symm

theorem rankByPriority_perm (isPrio : Nat → Bool) (vals : List CV) :
    (rankByPriority isPrio vals).Perm vals :=
  ((sortDesc_perm _).append (sortDesc_perm _)).trans (List.filter_append_perm _ _)

end ICS.Shaping
