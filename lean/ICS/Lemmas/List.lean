/-
  Facts about core `List` functions in the shapes the model uses them: folds with an invariant,
  folds that thread an `Option` state, and association lists looked up by a key.
-/
namespace ICS

section Fold
variable {σ α : Type _}

/-- invariant rule for `foldl`; the step may use that its element is in the list -/
theorem foldl_inv {f : σ → α → σ} (I : σ → Prop) {l : List α} {s : σ} (h0 : I s)
    (step : ∀ s, ∀ a ∈ l, I s → I (f s a)) : I (l.foldl f s) := by
  induction l generalizing s with
  | nil => exact h0
  | cons a l ih =>
    exact ih (step s a List.mem_cons_self h0) fun s b hb => step s b (List.mem_cons_of_mem _ hb)

/-- what the step for `a` establishes and every step keeps holds at the end, if `a` is in the list -/
theorem foldl_of_mem {f : σ → α → σ} (P : σ → Prop) {l : List α} {a : α} (ha : a ∈ l) (s : σ)
    (est : ∀ s, P (f s a)) (keep : ∀ s b, P s → P (f s b)) : P (l.foldl f s) := by
  obtain ⟨pre, post, rfl⟩ := List.append_of_mem ha
  rw [List.foldl_append, List.foldl_cons]
  exact foldl_inv P (est _) fun s b _ => keep s b

/-! The model's block loops that can fail are `l.foldl g (some s)` with
    `g = fun acc a => match acc with | none => none | some s => f s a`: once `none`, always `none`.
    The rules take `g` as it stands (a `match` written in another declaration is another matcher
    constant, so it cannot be replaced by a shared definition up to `rfl`); for them a successful
    run is an ordinary fold whose invariant speaks of `some` states only. -/

variable {g : Option σ → α → Option σ} (hnone : ∀ a, g none a = none)
include hnone

theorem foldl_some_inv (I : σ → Prop) {l : List α} {s s' : σ} (h : l.foldl g (some s) = some s') (h0 : I s)
    (step : ∀ s, ∀ a ∈ l, ∀ s', g (some s) a = some s' → I s → I s') : I s' := by
  refine foldl_inv (f := g) (fun o => ∀ t, o = some t → I t) (fun t ht => Option.some.inj ht ▸ h0) ?_ s' h
  intro o a ha hI t' ht'
  cases o with
  | none => rw [hnone] at ht'; cases ht'
  | some t => exact step t a ha t' ht' (hI t rfl)

theorem foldl_some_of_mem (P : σ → Prop) {l : List α} {s s' : σ} (h : l.foldl g (some s) = some s')
    {a : α} (ha : a ∈ l) (est : ∀ s s', g (some s) a = some s' → P s')
    (keep : ∀ s b s', g (some s) b = some s' → P s → P s') : P s' := by
  refine foldl_of_mem (f := g) (fun o => ∀ t, o = some t → P t) ha (some s) ?_ ?_ s' h
  · intro o t' ht'
    cases o with
    | none => rw [hnone] at ht'; cases ht'
    | some t => exact est t t' ht'
  · intro o b hP t' ht'
    cases o with
    | none => rw [hnone] at ht'; cases ht'
    | some t => exact keep t b t' ht' (hP t rfl)

omit hnone
end Fold

theorem getLastD_append {α} (a : α) (l m : List α) :
    (l ++ m).getLastD a = m.getLastD (l.getLastD a) := by
  induction l generalizing a with
  | nil => rfl
  | cons x xs ih => rw [List.cons_append, List.getLastD_cons, List.getLastD_cons, ih]

theorem find?_filter_of_imp {α} {p q : α → Bool} (h : ∀ a, q a → p a) (l : List α) :
    (l.filter p).find? q = l.find? q := by
  rw [List.find?_filter]
  congr 1; funext a
  cases hq : q a
  · exact decide_eq_false fun h => Bool.false_ne_true h.2
  · exact decide_eq_true ⟨h a hq, rfl⟩

theorem find?_eq_some_of_unique {α : Type _} {p : α → Bool} {l : List α} {a : α} (ha : a ∈ l)
    (hpa : p a = true) (huniq : ∀ b ∈ l, p b = true → b = a) : l.find? p = some a := by
  cases h : l.find? p with
  | none => exact absurd hpa (List.find?_eq_none.mp h a ha)
  | some b => rw [huniq b (List.mem_of_find?_eq_some h) (List.find?_some h)]

theorem find?_fst_eq_some {α β : Type _} [BEq α] [LawfulBEq α] {l : List (α × β)} {k : α} {e : α × β}
    (h : l.find? (·.1 == k) = some e) : l.find? (·.1 == k) = some (k, e.2) := by
  have hk := List.find?_some h
  rw [h, ← eq_of_beq hk]

theorem eq_of_key_eq {α κ : Type _} {key : α → κ} {l : List α} (hnd : (l.map key).Nodup) {a b : α}
    (ha : a ∈ l) (hb : b ∈ l) (hk : key a = key b) : a = b :=
  have hne : l.Pairwise fun a b => key a ≠ key b := List.pairwise_map.mp hnd
  List.Pairwise.forall_of_forall_of_flip (R := fun a b => key a = key b → a = b) (fun _ _ _ => rfl)
    (hne.imp fun h hk => absurd hk h) (hne.imp fun h hk => absurd hk.symm h) ha hb hk

section Assoc
variable {α κ : Type _} [BEq κ] (key : α → κ)

theorem find?_map_key {g : α → α} (hg : ∀ y, key (g y) = key y) (l : List α) (k : κ) :
    (l.map g).find? (key · == k) = (l.find? (key · == k)).map g := by
  rw [List.find?_map]; congr 2; funext y; simp only [Function.comp, hg]

variable [LawfulBEq κ]

/-- dropping the entries whose key is selected hides exactly those keys (a store delete) -/
theorem find?_filter_key (drop : κ → Bool) (l : List α) (k : κ) :
    (l.filter fun a => !drop (key a)).find? (key · == k) = if drop k then none else l.find? (key · == k) := by
  split
  · rename_i hd
    rw [List.find?_eq_none]
    intro a ha hak
    have := (List.mem_filter.mp ha).2
    rw [eq_of_beq hak, hd] at this
    exact Bool.false_ne_true this
  · rename_i hd
    exact find?_filter_of_imp (fun a hak => by rw [eq_of_beq hak]; simpa using hd) l

/-- "replace the entry that has the key of `x`, or append `x`" (a store write): afterwards `x` is
    found under its key and every other key finds what it found before -/
theorem find?_upsert (l : List α) (x : α) (k : κ) :
    (if l.any (key · == key x) then l.map (fun y => if key y == key x then x else y) else l ++ [x]).find?
        (key · == k)
      = if key x == k then some x else l.find? (key · == k) := by
  by_cases hany : l.any (key · == key x) = true
  · rw [if_pos hany, find?_map_key key (fun y => by split <;> simp_all)]
    cases hz : l.find? (key · == k) with
    | none =>
      have hno := List.find?_eq_none.mp hz
      obtain ⟨y, hy, hyx⟩ := List.any_eq_true.mp hany
      rw [if_neg fun hk => hno y hy (by rw [eq_of_beq hyx]; exact hk)]; rfl
    | some z =>
      have hzk : key z = k := eq_of_beq (List.find?_some (p := fun a => key a == k) hz)
      simp only [Option.map_some, hzk, BEq.comm (a := k)]
      split <;> rfl
  · rw [if_neg hany, List.find?_append]
    by_cases hk : key x == k
    · rw [if_pos hk, List.find?_eq_none.mpr]; simp only [List.find?_cons, hk]; rfl
      exact fun y hy hyk => hany (List.any_eq_true.mpr ⟨y, hy, by rw [eq_of_beq hyk, eq_of_beq hk]; exact beq_self_eq_true _⟩)
    · rw [if_neg hk]; simp only [List.find?_cons, hk, List.find?_nil, Option.or_none]

end Assoc

end ICS
