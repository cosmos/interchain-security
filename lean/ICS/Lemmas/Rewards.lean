/-
  What the functions of `ICS.Model.Rewards` return: sums of truncated quotients (the rounding of the
  payouts), one characterisation each for `allocateConsumerRewards`, `allocStep`, `sendRewards`, the
  invariant rule for `allocateTokens`, and lookup in a balance after a write.
-/
import ICS.Model.Rewards
import ICS.Lemmas.List
namespace ICS.Rewards
open ICS ICS.Epoch

theorem one_pos : 0 < one := by unfold one; decide

theorem mulTrunc_le (a : Nat) {b : Nat} (hb : b ≤ one) : mulTrunc a b ≤ a :=
  Nat.div_le_of_le_mul (Nat.mul_comm a one ▸ Nat.mul_le_mul_left a hb)

theorem mulTrunc_mul_one (v q : Nat) : mulTrunc (v * one) q = v * q := by
  rw [mulTrunc, Nat.mul_right_comm, Nat.mul_div_cancel _ one_pos]

section Sums
variable {α : Type _} (l : List α) (g : α → Nat) (m k : Nat)

theorem sum_map_mul_left : (l.map fun x => k * g x).sum = k * (l.map g).sum := by
  induction l with
  | nil => rfl
  | cons x xs ih => simp only [List.map_cons, List.sum_cons, ih, Nat.mul_add]

/-- scaling every summand by `m` and rounding it down to a multiple of `k` loses less than `k` per
    summand -/
theorem sum_map_div_bounds (hk : 0 < k) :
    (l.map fun x => g x * m / k).sum * k ≤ (l.map g).sum * m ∧
    (l.map g).sum * m ≤ ((l.map fun x => g x * m / k).sum + l.length) * k := by
  induction l with
  | nil => simp
  | cons x xs ih =>
    have h1 := Nat.div_mul_le_self (g x * m) k
    have h2 := Nat.lt_div_mul_add hk (a := g x * m)
    simp only [List.map_cons, List.sum_cons, List.length_cons, Nat.add_mul, Nat.one_mul] at ih ⊢
    omega

/-- the power fractions, each truncated to 18 digits, add up to one less at most 10⁻¹⁸ per entry -/
theorem fractions_bounds (htot : 0 < (l.map g).sum) :
    (l.map fun x => quoTruncInt (g x) (l.map g).sum).sum ≤ one ∧
    one ≤ (l.map fun x => quoTruncInt (g x) (l.map g).sum).sum + l.length := by
  have h := sum_map_div_bounds l g one _ htot
  rw [Nat.mul_comm _ one] at h
  exact ⟨Nat.le_of_mul_le_mul_right h.1 htot, Nat.le_of_mul_le_mul_right h.2 htot⟩

end Sums

/-- the two outcomes of `allocateConsumerRewards`: nobody is eligible and all whole tokens go to the
    community pool; or the validators' part `vr` and the rest are each cut into whole tokens, for
    the validators and for the community pool, and a remainder that stays credited -/
theorem allocateConsumerRewards_cases (credit tax : Nat) (vals : List CVal) (h e : Nat) :
    let elig := vals.filter fun c => eligible h c.join e
    let total := (elig.map (·.power)).sum
    let vr := mulTrunc credit (one - tax)
    (total = 0 ∧ allocateConsumerRewards credit tax vals h e =
      { toDistr := 0, sendsToDistr := false, pays := [], toCP := credit / one, fundsCP := true,
        left := credit % one }) ∨
    (0 < total ∧ allocateConsumerRewards credit tax vals h e =
      { toDistr := vr / one, sendsToDistr := true,
        pays := if vr / one = 0 then [] else elig.map fun c =>
          { v := c.v, amount := mulTrunc (vr / one * one) (quoTruncInt c.power total) },
        toCP := (credit - vr) / one, fundsCP := true, left := vr % one + (credit - vr) % one }) := by
  intro elig total vr
  unfold allocateConsumerRewards
  simp only [beq_iff_eq]
  split
  · next h0 => exact .inl ⟨h0, rfl⟩
  · next h0 => exact .inr ⟨Nat.pos_of_ne_zero h0, rfl⟩

theorem getBal_setBal (b : Bal) (d d' : String) (v : Nat) :
    getBal (setBal b d v) d' = if d' = d then v else getBal b d' := by
  simp only [getBal, setBal, bne, List.find?_append, find?_filter_key Prod.fst (· == d) b d', beq_iff_eq]
  by_cases hv : v = 0 <;> by_cases h : d = d' <;> simp [h, hv, eq_comm (a := d')]

/-- adding `x` at `d` (the body of `addBal`) -/
theorem getBal_setBal_add (b : Bal) (d d' : String) (x : Nat) :
    getBal (setBal b d (getBal b d + x)) d' = getBal b d' + if d' = d then x else 0 := by
  rw [getBal_setBal]
  split
  · next h => rw [h]
  · rfl

/-- a step is skipped (no credit, or the pool cannot cover it), or it pays `p` out of the pool -/
theorem allocStep_cases (tax h e : Nat) (c : Provider.CId) (vals : List CVal) (r : AllocResult) (dn : String) :
    let p := allocateConsumerRewards (getCredit r.credits c dn) tax vals h e
    allocStep tax h e c vals r dn = r ∨
    (p.toDistr + p.toCP ≤ getBal r.pool dn ∧ allocStep tax h e c vals r dn =
      { credits := setCredit r.credits c dn p.left,
        pool := setBal r.pool dn (getBal r.pool dn - p.toDistr - p.toCP),
        distr := setBal r.distr dn (getBal r.distr dn + p.toDistr),
        cp := setBal r.cp dn (getBal r.cp dn + p.toCP),
        steps := r.steps ++ [{ consumer := c, denom := dn, payout := p }] }) := by
  simp only [allocStep]
  split
  · exact .inl rfl
  · split
    · exact .inl rfl
    · next hlt => exact .inr ⟨Nat.le_of_not_lt hlt, rfl⟩

/-- every invariant of `allocStep` is an invariant of `allocateTokens` -/
theorem allocateTokens_inv (I : AllocResult → Prop) {tax h e : Nat}
    (step : ∀ c vals r dn, I r → I (allocStep tax h e c vals r dn))
    (consumers : List (Provider.CId × List CVal × List String)) (gd : List String)
    {credits : Credits} {pool distr cp : Bal}
    (h0 : I { credits := credits, pool := pool, distr := distr, cp := cp, steps := [] }) :
    I (allocateTokens consumers gd credits pool distr cp tax h e) :=
  foldl_inv I h0 fun _ c _ hr => foldl_inv I hr fun r dn _ hr => step c.1 c.2.1 r dn hr

/-- nothing is sent (channel closed, or a transfer fails and all are rolled back), or every allowed
    denom in turn -/
theorem sendRewards_cases (s : CRState) (allowed : List String) (o : Bool) (k : Nat) :
    sendRewards s allowed o k = (s, []) ∨
    sendRewards s allowed o k = allowed.foldl sendOneDenom (s, []) := by
  simp only [sendRewards]
  split
  · exact .inl rfl
  · split
    · exact .inl rfl
    · exact .inr rfl

end ICS.Rewards
