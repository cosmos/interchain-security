/-
  `computeNextValidators` read as: shape the eligible validators (rank, set cap, power cap), then
  give every shaped validator the record `createCV` makes for it, with the shaped power.
-/
import ICS.Model.Epoch
import ICS.Lemmas.Cap
namespace ICS.Epoch
open ICS.Shaping

/-- the list `computeNextValidators` reads ids and powers from (its `shaped`) -/
def shaped (inp : Input) (optin : List Nat) (minP : Nat) : List Shaping.CV :=
  capValidatorsPower inp.ps.powCap (capValidatorSet inp.ps.topN inp.ps.setCap
    (rankByPriority (fun v => inp.prio.contains v)
      (((eligible inp optin minP).map (createCV inp)).map fun c => { id := c.v, power := c.power })))

/-- the members of the computed set: for each shaped validator (its id is among the eligible) the
    record `createCV` makes for that id, with the shaped power -/
theorem mem_computeNextValidators {inp : Input} {optin : List Nat} {minP : Nat} {c : CVal} :
    c ∈ computeNextValidators inp optin minP ↔
      ∃ s ∈ shaped inp optin minP, s.id ∈ eligible inp optin minP ∧
        c = { createCV inp s.id with power := s.power } := by
  refine List.mem_filterMap.trans (exists_congr fun s => and_congr_right fun _ => ?_)
  split
  · next c' hf =>
    obtain ⟨v, hv, rfl⟩ := List.mem_map.mp (List.mem_of_find?_eq_some hf)
    have hv' := List.find?_some hf
    obtain rfl : v = s.id := eq_of_beq hv'
    exact ⟨fun e => ⟨hv, (Option.some.inj e).symm⟩, fun e => congrArg some e.2.symm⟩
  · next hf =>
    refine ⟨nofun, fun e => ?_⟩
    exact absurd (beq_self_eq_true s.id) (List.find?_eq_none.mp hf _ (List.mem_map_of_mem e.1))

/-- without a power cap every shaped validator still has its provider power -/
theorem shaped_uncapped {inp : Input} {optin : List Nat} {minP : Nat} (hcap : inp.ps.powCap = 0) :
    ∀ s ∈ shaped inp optin minP, s.power = lastPower inp.stk s.id := by
  intro s hs
  unfold shaped capValidatorsPower at hs
  rw [hcap, if_neg (Nat.lt_irrefl 0), capValidatorSet_eq_take] at hs
  have := (rankByPriority_perm _ _).mem_iff.mp (List.mem_of_mem_take hs)
  rw [List.map_map, List.mem_map] at this
  obtain ⟨v, -, rfl⟩ := this
  rfl

/-- without a set cap every eligible validator is shaped -/
theorem shaped_complete {inp : Input} {optin : List Nat} {minP : Nat}
    (hnocap : inp.ps.setCap = 0 ∨ inp.ps.topN > 0) :
    ∀ v ∈ eligible inp optin minP, ∃ s ∈ shaped inp optin minP, s.id = v := by
  intro v hv
  refine List.mem_map.mp ?_
  unfold shaped
  rw [capValidatorSet_eq_take, if_pos hnocap.symm, List.take_length]
  refine ((capValidatorsPower_ids _ _).trans ((rankByPriority_perm _ _).map _)).mem_iff.mpr ?_
  rw [List.map_map, List.map_map]
  exact List.mem_map.mpr ⟨v, hv, rfl⟩

end ICS.Epoch
