/-
  Time-bucket queues `List (Time × List α)`: the launch, removal and infraction-parameter schedules
  (`α` = consumer id) and the key-pruning schedule of one consumer (`α` = consumer key).  The code
  stores one entry per time, keyed by the time.  What the properties say about such a queue only
  concerns the bag of scheduled ids `ids q` and the list of times `times q`; every operation of the
  model is characterised here by what it does to these two.
-/
import ICS.Model.Provider
import ICS.Spec.Prov
import ICS.Lemmas.List
namespace ICS.Bucket
open ICS.Provider ICS.Spec.Prov

variable {α : Type}

/-- the scheduled ids, earliest bucket first -/
abbrev ids (q : List (Time × List α)) : List α := q.flatMap (·.2)

abbrev times (q : List (Time × List α)) : List Time := q.map (·.1)

/-- appendConsumerIdOnTime and AppendConsumerAddrsToPrune, for any id type -/
def append (q : List (Time × List α)) (t : Time) (a : α) : List (Time × List α) :=
  if q.any (·.1 == t) then q.map fun e => if e.1 == t then (e.1, e.2 ++ [a]) else e
  else q.filter (·.1 < t) ++ [(t, [a])] ++ q.filter (t < ·.1)

theorem tqAppend_eq (q : TimeQueue) (t : Time) (c : CId) : tqAppend q t c = append q t c := rfl

theorem pruneAppend_eq (pr : List (Time × List Nat)) (t : Time) (k : Nat) :
    pruneAppend pr t k = append pr t k := by
  unfold pruneAppend append
  congr 1
  refine List.map_congr_left fun e _ => ?_
  split
  · rename_i h; rw [eq_of_beq h]
  · rfl

theorem any_time_iff (q : List (Time × List α)) (t : Time) : q.any (·.1 == t) = true ↔ t ∈ times q := by
  rw [List.any_eq_true, List.mem_map]
  exact ⟨fun ⟨e, he, h⟩ => ⟨e, he, eq_of_beq h⟩, fun ⟨e, he, h⟩ => ⟨e, he, beq_iff_eq.mpr h⟩⟩

/-- a new bucket is put in its place by time; as a bag of entries that is just one more entry -/
theorem append_perm_of_not_mem {q : List (Time × List α)} {t : Time} (h : t ∉ times q) (a : α) :
    (append q t a).Perm ((t, [a]) :: q) := by
  have hf : q.filter (t < ·.1) = q.filter (fun e => !decide (e.1 < t)) :=
    List.filter_congr fun e he => by
      have : e.1 ≠ t := fun h' => h (List.mem_map.mpr ⟨e, he, h'⟩)
      show decide (t < e.1) = !decide (e.1 < t)
      rw [← decide_not]; exact decide_eq_decide.mpr
        ⟨fun h => Int.lt_asymm h, fun h => Int.lt_iff_le_and_ne.mpr ⟨Int.not_lt.mp h, Ne.symm this⟩⟩
  rw [append, if_neg (mt (any_time_iff q t).mp h), hf, List.append_assoc]
  exact List.perm_middle.trans ((List.filter_append_perm _ q).cons _)

theorem ids_append_of_mem {q : List (Time × List α)} {t : Time} (hn : (times q).Nodup) (h : t ∈ times q) (a : α) :
    (ids (q.map fun e => if e.1 == t then (e.1, e.2 ++ [a]) else e)).Perm (a :: ids q) := by
  induction q with
  | nil => cases h
  | cons e q ih =>
    obtain ⟨hnot, hq⟩ := List.nodup_cons.mp hn
    simp only [ids, List.map_cons, List.flatMap_cons]
    by_cases he : e.1 == t
    · -- no later entry has this time: the rest is unchanged
      have hrest : (q.map fun e => if e.1 == t then (e.1, e.2 ++ [a]) else e) = q :=
        (List.map_congr_left fun f hf => by
          rw [if_neg]; intro hft
          exact hnot (List.mem_map.mpr ⟨f, hf, (eq_of_beq hft).trans (eq_of_beq he).symm⟩)).trans (List.map_id' q)
      rw [if_pos he, hrest, List.append_assoc]
      exact List.perm_middle
    · rw [if_neg he]
      have : t ∈ times q := by
        rcases List.mem_cons.mp h with h | h
        · exact absurd (beq_iff_eq.mpr h.symm) he
        · exact h
      exact ((ih hq this).append_left e.2).trans List.perm_middle

/-- SCHEDULED ONCE MORE: with one entry per time, `append` adds exactly one occurrence of `a` to the
    bag of scheduled ids and nothing else -/
theorem ids_append_perm {q : List (Time × List α)} (hn : (times q).Nodup) (t : Time) (a : α) :
    (ids (append q t a)).Perm (a :: ids q) := by
  by_cases h : t ∈ times q
  · rw [append, if_pos ((any_time_iff q t).mpr h)]
    exact ids_append_of_mem hn h a
  · exact (append_perm_of_not_mem h a).flatMap_right _

theorem count_ids_append [DecidableEq α] {q : List (Time × List α)} (hn : (times q).Nodup) (t : Time) (a a' : α) :
    (ids (append q t a)).count a' = (ids q).count a' + if a' = a then 1 else 0 := by
  rw [(ids_append_perm hn t a).count_eq, List.count_cons]
  by_cases h : a' = a
  · rw [if_pos h, if_pos (beq_iff_eq.mpr h.symm)]
  · rw [if_neg h, if_neg fun e => h (beq_iff_eq.mp e).symm]

theorem nodup_times_append {q : List (Time × List α)} (hn : (times q).Nodup) (t : Time) (a : α) :
    (times (append q t a)).Nodup := by
  by_cases h : t ∈ times q
  · rw [append, if_pos ((any_time_iff q t).mpr h)]
    have : times (q.map fun e => if e.1 == t then (e.1, e.2 ++ [a]) else e) = times q := by
      simp only [times, List.map_map]
      exact List.map_congr_left fun e _ => by simp only [Function.comp]; split <;> rfl
    rwa [this]
  · exact ((append_perm_of_not_mem h a).map _).nodup_iff.mpr (List.nodup_cons.mpr ⟨h, hn⟩)

/-- whatever the times: `append` schedules nothing but `a` -/
theorem mem_ids_append {q : List (Time × List α)} {t : Time} {a x : α} (h : x ∈ ids (append q t a)) :
    x = a ∨ x ∈ ids q := by
  obtain ⟨e, he, hx⟩ := List.mem_flatMap.mp h
  unfold append at he
  split at he
  · obtain ⟨e0, he0, rfl⟩ := List.mem_map.mp he
    split at hx
    · rcases List.mem_append.mp hx with hx | hx
      · exact Or.inr (List.mem_flatMap.mpr ⟨e0, he0, hx⟩)
      · exact Or.inl (List.mem_singleton.mp hx)
    · exact Or.inr (List.mem_flatMap.mpr ⟨e0, he0, hx⟩)
  · simp only [List.mem_append, List.mem_filter, List.mem_singleton] at he
    rcases he with (he | rfl) | he
    · exact Or.inr (List.mem_flatMap.mpr ⟨e, he.1, hx⟩)
    · exact Or.inl (List.mem_singleton.mp hx)
    · exact Or.inr (List.mem_flatMap.mpr ⟨e, he.1, hx⟩)

theorem exists_mem_append (q : List (Time × List α)) (t : Time) (a : α) :
    ∃ e ∈ append q t a, e.1 = t ∧ a ∈ e.2 := by
  unfold append
  split
  · rename_i h
    obtain ⟨e, he, het⟩ := List.any_eq_true.mp h
    exact ⟨(e.1, e.2 ++ [a]), List.mem_map.mpr ⟨e, he, by rw [if_pos het]⟩, eq_of_beq het, by simp⟩
  · exact ⟨(t, [a]), by simp, rfl, by simp⟩

/-- SCHEDULED ONCE LESS: removeConsumerIdFromTime, when it succeeds on a queue with one entry per
    time, takes exactly one occurrence of `c` out of the bag of scheduled ids and adds no time -/
theorem tqRemove_some {q q' : TimeQueue} {t : Time} {c : CId} (hn : (times q).Nodup)
    (h : tqRemove q t c = some q') : (ids q).Perm (c :: ids q') ∧ (times q').Sublist (times q) := by
  unfold tqRemove at h
  split at h
  · cases h
  rename_i e he
  obtain ⟨het, pre, post, rfl, hpre⟩ := List.find?_eq_some_iff_append.mp he
  -- with one entry per time, `e` is the only entry of time `t`
  have hpre : ∀ x ∈ pre, (x.1 == t) = false := fun x hx => by simpa using hpre x hx
  have hpost : ∀ x ∈ post, (x.1 == t) = false := fun x hx => by
    rw [times, List.map_append, List.map_cons] at hn
    have := (List.nodup_cons.mp (List.nodup_append.mp hn).2.1).1
    exact beq_false_of_ne fun hx' => this (List.mem_map.mpr ⟨x, hx, hx'.trans (eq_of_beq het).symm⟩)
  simp only [Option.ite_none_left_eq_some, Bool.not_eq_true', Bool.not_eq_false] at h
  have hc : c ∈ e.2 := List.contains_iff_mem.mp h.1
  -- both branches replace `e` by its bucket without `c`, dropping it when that is empty
  have hq' : ∃ mid, q' = pre ++ mid ++ post ∧ ids mid = e.2.erase c ∧ (times mid).Sublist [e.1] := by
    by_cases hl : (e.2.length == 1) = true
    · rw [if_pos hl] at h
      have keep : ∀ l : TimeQueue, (∀ x ∈ l, (x.1 == t) = false) → l.filter (fun x => x.1 != t) = l :=
        fun l hl => List.filter_eq_self.mpr fun x hx => by rw [bne, hl x hx]; rfl
      refine ⟨[], ?_, ?_, List.nil_sublist _⟩
      · rw [← Option.some.inj h.2, List.filter_append, List.filter_cons_of_neg (by rw [bne, het]; exact Bool.false_ne_true),
          keep pre hpre, keep post hpost, List.append_nil]
      · exact (List.length_eq_zero_iff.mp (by rw [List.length_erase_of_mem hc, eq_of_beq hl])).symm
    · rw [if_neg hl] at h
      have keep : ∀ l : TimeQueue, (∀ x ∈ l, (x.1 == t) = false) →
          l.map (fun x => if x.1 == t then (x.1, x.2.erase c) else x) = l :=
        fun l hl => (List.map_congr_left fun x hx => if_neg (by rw [hl x hx]; exact Bool.false_ne_true)).trans
          (List.map_id' l)
      refine ⟨[(e.1, e.2.erase c)], ?_, List.append_nil _, List.Sublist.refl _⟩
      rw [← Option.some.inj h.2, List.map_append, List.map_cons, if_pos het, keep pre hpre, keep post hpost,
        List.append_assoc, List.singleton_append]
  obtain ⟨mid, rfl, hids, htimes⟩ := hq'
  constructor
  · simp only [ids, List.flatMap_append, List.flatMap_cons, hids] at *
    exact ((List.perm_cons_erase hc).append_right _ |>.append_left _).trans
      (List.perm_middle.trans (by simp))
  · simp only [times, List.map_append, List.map_cons, List.append_assoc]
    exact (List.Sublist.refl _).append (htimes.append (List.Sublist.refl _))

/-- `dropFromQueue` erases `c` once from every bucket and drops the buckets that become empty -/
theorem dropFromQueue_cons (e : Time × List CId) (q : TimeQueue) (c : CId) :
    dropFromQueue (e :: q) c =
      (if (e.2.erase c).isEmpty then [] else [(e.1, e.2.erase c)]) ++ dropFromQueue q c := by
  by_cases he : (e.2.erase c).isEmpty = true
  · simp only [dropFromQueue, List.filterMap_cons, he, if_true, List.nil_append]
  · simp only [dropFromQueue, List.filterMap_cons, he, Bool.false_eq_true, if_false, List.cons_append,
      List.nil_append]

theorem ids_dropFromQueue (q : TimeQueue) (c : CId) : ids (dropFromQueue q c) = q.flatMap (·.2.erase c) := by
  induction q with
  | nil => rfl
  | cons e q ih =>
    rw [dropFromQueue_cons, ids, List.flatMap_append, List.flatMap_cons, ← ih]
    congr 1
    split
    · rename_i h; rw [List.isEmpty_iff.mp h]; rfl
    · exact List.append_nil _

theorem times_dropFromQueue_sublist (q : TimeQueue) (c : CId) :
    (times (dropFromQueue q c)).Sublist (times q) := by
  induction q with
  | nil => exact List.Sublist.refl _
  | cons e q ih =>
    rw [dropFromQueue_cons, times, List.map_append]
    split
    · exact ih.cons _
    · exact ih.cons_cons _

theorem count_ids_dropFromQueue_of_ne (q : TimeQueue) {c c' : CId} (h : c' ≠ c) :
    (ids (dropFromQueue q c)).count c' = (ids q).count c' := by
  rw [ids_dropFromQueue, List.count_flatMap, List.count_flatMap]
  exact congrArg _ (List.map_congr_left fun e _ => List.count_erase_of_ne h)

theorem count_ids_dropFromQueue_of_one {q : TimeQueue} {c : CId} (h : (ids q).count c = 1) :
    (ids (dropFromQueue q c)).count c = 0 := by
  rw [ids_dropFromQueue, List.count_flatMap, List.sum_eq_zero_iff_forall_eq_nat]
  intro n hn
  obtain ⟨e, he, rfl⟩ := List.mem_map.mp hn
  -- the bucket holds `c` at most once, and the erase takes that occurrence
  have : e.2.count c ≤ 1 := h ▸ (List.sublist_flatten_of_mem (List.mem_map_of_mem he)).count_le c
  show (e.2.erase c).count c = 0
  rw [List.count_erase_self]; omega

theorem countIn_eq (q : TimeQueue) (c : CId) : countIn q c = (ids q).count c :=
  List.count_eq_length_filter.symm

theorem sortedQ_iff (q : TimeQueue) : sortedQ q = true ↔ (times q).Pairwise (· < ·) := by
  induction q with
  | nil => simp [sortedQ]
  | cons e q ih =>
    simp only [sortedQ, Bool.and_eq_true, List.all_eq_true, decide_eq_true_eq, ih, times, List.map_cons,
      List.pairwise_cons, List.mem_map, forall_exists_index, and_imp, forall_apply_eq_imp_iff₂]

theorem nodup_times_of_sorted {q : TimeQueue} (h : sortedQ q = true) : (times q).Nodup :=
  ((sortedQ_iff q).mp h).imp Int.ne_of_lt

theorem sortedQ_of_sublist {q q' : TimeQueue} (hs : sortedQ q = true) (h : (times q').Sublist (times q)) :
    sortedQ q' = true :=
  (sortedQ_iff q').mpr (((sortedQ_iff q).mp hs).sublist h)

/-- ConsumeIdsFromTimeQueue: one run of the loop takes some ids `taken` off the front of the queue.
    Nothing is lost, duplicated or reordered; the limit is respected; only buckets whose time has
    come are touched; what stays keeps the times of a tail of the queue. -/
theorem tqConsume_go_spec (now : Time) (limit : Nat) (q : TimeQueue) (res : List CId) :
    ∃ taken, (tqConsume.go now limit q res).1 = res ++ taken ∧
      taken ++ ids (tqConsume.go now limit q res).2 = ids q ∧
      (res.length ≤ limit → (res ++ taken).length ≤ limit) ∧
      (∀ c ∈ taken, ∃ e ∈ q, e.1 ≤ now ∧ c ∈ e.2) ∧
      (times (tqConsume.go now limit q res).2).Sublist (times q) := by
  have stop (q : TimeQueue) (res : List CId) : ∃ taken, (res, q).1 = res ++ taken ∧ taken ++ ids (res, q).2 = ids q ∧
      (res.length ≤ limit → (res ++ taken).length ≤ limit) ∧ (∀ c ∈ taken, ∃ e ∈ q, e.1 ≤ now ∧ c ∈ e.2) ∧
      (times (res, q).2).Sublist (times q) :=
    ⟨[], (List.append_nil _).symm, rfl, (fun h => by rwa [List.append_nil]), (fun _ h => nomatch h),
      List.Sublist.refl _⟩
  induction q generalizing res with
  | nil => exact stop [] res
  | cons e rest ih =>
    obtain ⟨t, l⟩ := e
    rw [tqConsume.go]
    by_cases h1 : res.length ≥ limit
    · rw [if_pos h1]; exact stop _ res
    rw [if_neg h1]
    by_cases h2 : t > now
    · rw [if_pos h2]; exact stop _ res
    rw [if_neg h2]
    have here : ∀ c ∈ l, ∃ e ∈ (t, l) :: rest, e.1 ≤ now ∧ c ∈ e.2 :=
      fun c h => ⟨(t, l), List.mem_cons_self, Int.not_lt.mp h2, h⟩
    dsimp only
    by_cases h3 : limit - res.length ≥ l.length
    · rw [if_pos h3]
      obtain ⟨taken, e1, e2, e3, e4, e5⟩ := ih (res ++ l)
      refine ⟨l ++ taken, by rw [e1, List.append_assoc], ?_, ?_, ?_, e5.cons _⟩
      · rw [List.append_assoc, e2]; rfl
      · intro _; rw [← List.append_assoc]; exact e3 (by rw [List.length_append]; omega)
      · intro c hc
        rcases List.mem_append.mp hc with hc | hc
        · exact here c hc
        · obtain ⟨e, he, h⟩ := e4 c hc
          exact ⟨e, List.mem_cons_of_mem _ he, h⟩
    · rw [if_neg h3]
      refine ⟨l.take (limit - res.length), rfl, ?_, ?_, fun c hc => here c (List.mem_of_mem_take hc),
        List.Sublist.refl _⟩
      · show _ ++ (l.drop _ ++ ids rest) = l ++ ids rest
        rw [← List.append_assoc, List.take_append_drop]
      · intro _; rw [List.length_append, List.length_take]; omega

theorem tqConsume_conserves (q : TimeQueue) (now : Time) (limit : Nat) :
    (tqConsume q now limit).1 ++ flatQ (tqConsume q now limit).2 = flatQ q := by
  obtain ⟨taken, e1, e2, _⟩ := tqConsume_go_spec now limit q []
  rw [tqConsume, e1]; exact e2

theorem tqConsume_counts (q : TimeQueue) (now : Time) (limit : Nat) (c : CId) :
    ((tqConsume q now limit).1.filter (· == c)).length + countIn (tqConsume q now limit).2 c = countIn q c := by
  have h := congrArg (fun l => (l.filter (· == c)).length) (tqConsume_conserves q now limit)
  simp only [List.filter_append, List.length_append] at h
  exact h

theorem tqConsume_limit (q : TimeQueue) (now : Time) (limit : Nat) :
    (tqConsume q now limit).1.length ≤ limit := by
  obtain ⟨taken, e1, _, e3, _⟩ := tqConsume_go_spec now limit q []
  rw [tqConsume, e1]; exact e3 (Nat.zero_le _)

theorem tqConsume_due (q : TimeQueue) (now : Time) (limit : Nat) :
    ∀ c ∈ (tqConsume q now limit).1, ∃ e ∈ q, e.1 ≤ now ∧ c ∈ e.2 := by
  obtain ⟨taken, e1, _, _, e4, _⟩ := tqConsume_go_spec now limit q []
  rw [tqConsume, e1]; exact e4

theorem tqConsume_sorted {q : TimeQueue} (now : Time) (limit : Nat) (hs : sortedQ q = true) :
    sortedQ (tqConsume q now limit).2 = true :=
  sortedQ_of_sublist hs (tqConsume_go_spec now limit q []).choose_spec.2.2.2.2

end ICS.Bucket
