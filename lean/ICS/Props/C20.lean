/-
  C20 — Infraction parameters in force are used; changes are delayed by unbonding.
-/
import ICS.Lemmas.Prov
import ICS.Props.C10
namespace ICS.Props.C20
open ICS ICS.Provider ICS.Spec.Prov ICS.Props.C10

/-- a request equal to the current parameters leaves nothing pending (it cancels a pending one) -/
theorem cancel_when_equal (s : State) (c : CId) (new : Infr) (h : (s.get c).infr = some new) :
    ((updateQueuedInfr s c new).get c).qinfr = none := by
  rw [updateQueuedInfr_get, if_pos h]

/-- a differing request becomes THE pending change (replacing any earlier one); the parameters in
    force are untouched -/
theorem queue_when_different (s : State) (c : CId) (new : Infr) (h : (s.get c).infr ≠ some new) :
    ((updateQueuedInfr s c new).get c).qinfr = some new ∧
    ((updateQueuedInfr s c new).get c).infr = (s.get c).infr := by
  rw [updateQueuedInfr_get, if_neg h]
  exact ⟨rfl, rfl⟩

/-- the new entry is due exactly one unbonding period after the request -/
theorem queued_due_time (s : State) (c : CId) (new : Infr) (h : (s.get c).infr ≠ some new) :
    (updateQueuedInfr s c new).infrQ =
      tqAppend (clearQueued s c).infrQ (s.now + s.unbonding) c := by
  rw [updateQueuedInfr_eq, if_neg h]

/-- BeginBlock applies a due pending change exactly once: afterwards it is in force and nothing
    is pending -/
theorem apply_pending (x : Consumer) (q : Infr) (s : State) (c : CId) (hx : s.get c = x) (hq : x.qinfr = some q) :
    let s' := (match (s.get c).qinfr with
               | some q => s.set { s.get c with infr := some q, qinfr := none }
               | none => s)
    (s'.get c).infr = some q ∧ (s'.get c).qinfr = none := by
  subst hx
  simp only [hq]
  rw [get_set_id s { s.get c with infr := some q, qinfr := none } c (get_id s c)]
  exact ⟨rfl, rfl⟩

/-- only consumers whose due time has been reached are switched (at most 200 per block) -/
theorem switch_only_when_due (s : State) :
    (∀ c ∈ (tqConsume s.infrQ s.now 200).1, ∃ e ∈ s.infrQ, e.1 ≤ s.now ∧ c ∈ e.2) ∧
    (tqConsume s.infrQ s.now 200).1.length ≤ 200 :=
  ⟨Bucket.tqConsume_due _ _ _, Bucket.tqConsume_limit _ _ _⟩

/-! ### non-vacuity -/
example :
    let p1 : Infr := { ds := none, dt := some { frac := "0.1", jail := 5, tomb := false } }
    let p2 : Infr := { ds := none, dt := some { frac := "0.2", jail := 5, tomb := false } }
    let s : State := { consumers := [{ id := "0", phase := .launched, infr := some p1 }], now := 100, unbonding := 50 }
    let s1 := updateQueuedInfr s "0" p2
    (s1.get "0").qinfr = some p2 ∧ s1.infrQ = [(150, ["0"])] ∧
    ((updateQueuedInfr s1 "0" p1).get "0").qinfr = none ∧ (updateQueuedInfr s1 "0" p1).infrQ = [] ∧
    ((beginBlockInfraction { s1 with now := 149 }).get "0").infr = some p1 ∧
    ((beginBlockInfraction { s1 with now := 150 }).get "0").infr = some p2 := by decide

/-- the consumer's pending change is scheduled exactly once, and only while one is pending -/
def QueuedOnce (s : State) (c : CId) : Prop :=
  countIn s.infrQ c = if (s.get c).qinfr.isSome then 1 else 0

/-- RemoveConsumerInfractionQueuedData takes the consumer out of the schedule and nobody else; the
    schedule stays ordered -/
theorem clearQueued_infrQ (s : State) (c : CId) (hs : sortedQ s.infrQ = true) (h : QueuedOnce s c) :
    sortedQ (clearQueued s c).infrQ = true ∧ countIn (clearQueued s c).infrQ c = 0 ∧
    ∀ c', c' ≠ c → countIn (clearQueued s c).infrQ c' = countIn s.infrQ c' := by
  have hq : (clearQueued s c).infrQ = if (s.get c).qinfr.isSome then dropFromQueue s.infrQ c else s.infrQ := rfl
  rw [hq]
  unfold QueuedOnce at h
  split
  · rw [if_pos ‹_›, Bucket.countIn_eq] at h
    simp only [Bucket.countIn_eq]
    exact ⟨Bucket.sortedQ_of_sublist hs (Bucket.times_dropFromQueue_sublist _ c),
      Bucket.count_ids_dropFromQueue_of_one h, fun c' hc' => Bucket.count_ids_dropFromQueue_of_ne _ hc'⟩
  · rw [if_neg ‹_›] at h
    exact ⟨hs, h, fun _ _ => rfl⟩

/-- EXACTLY ONCE: whatever was pending before, after a request the consumer is in the schedule once
    if a change is now pending and not at all if the request cancelled it; every other consumer's
    entries are untouched -/
theorem request_scheduled_once (s : State) (c : CId) (new : Infr) (hs : sortedQ s.infrQ = true) (h : QueuedOnce s c) :
    QueuedOnce (updateQueuedInfr s c new) c ∧
    ∀ c', c' ≠ c → countIn (updateQueuedInfr s c new).infrQ c' = countIn s.infrQ c' := by
  obtain ⟨hsort, h0, hoth⟩ := clearQueued_infrQ s c hs h
  unfold QueuedOnce
  by_cases heq : (s.get c).infr = some new
  · rw [cancel_when_equal s c new heq, updateQueuedInfr_eq, if_pos heq]
    exact ⟨h0, hoth⟩
  · rw [(queue_when_different s c new heq).1, queued_due_time s c new heq]
    refine ⟨?_, fun c' hc' => ?_⟩
    · rw [countIn_tqAppend _ _ _ _ hsort, h0, if_pos rfl]; rfl
    · rw [countIn_tqAppend _ _ _ _ hsort, hoth c' hc', if_neg hc']; rfl

/-- one iteration of BeginBlockUpdateInfractionParameters writes the record of its consumer, whose
    pending change it clears, and nothing else -/
theorem switchStep (t : State) (d c : CId) :
    let t' := match (t.get d).qinfr with
      | some q => t.set { t.get d with infr := some q, qinfr := none }
      | none => t
    t'.infrQ = t.infrQ ∧ (d = c → (t'.get c).qinfr = none) ∧ (d ≠ c → t'.get c = t.get c) := by
  cases hq : (t.get d).qinfr with
  | none => exact ⟨rfl, fun hd => hd ▸ hq, fun _ => rfl⟩
  | some q =>
    refine ⟨set_infrQ t _, fun hd => ?_, fun hd => get_set_other t _ c fun e => hd (e.trans (get_id t d)).symm⟩
    show ((t.set { t.get d with infr := some q, qinfr := none }).get c).qinfr = none
    rw [get_set_id t _ c (hd ▸ get_id t d)]

/-- applying the due changes never touches the schedule: after BeginBlock it is exactly what the
    consumption left -/
theorem beginBlockInfraction_infrQ (s : State) :
    (beginBlockInfraction s).infrQ = (tqConsume s.infrQ s.now 200).2 :=
  foldl_inv (fun t : State => t.infrQ = (tqConsume s.infrQ s.now 200).2) rfl
    fun t d _ hI => (switchStep t d d).1.trans hI

/-- per consumer: changes applied in this block plus changes still scheduled are the changes that
    were scheduled — a queued change is applied once or still waits, never both and never neither -/
theorem switch_counts_conserved (s : State) (c : CId) :
    ((tqConsume s.infrQ s.now 200).1.filter (· == c)).length + countIn (beginBlockInfraction s).infrQ c
      = countIn s.infrQ c := by
  rw [beginBlockInfraction_infrQ]
  exact Bucket.tqConsume_counts _ _ _ c

/-- "scheduled exactly once, and only while a change is pending" survives BeginBlock: a change that
    is applied leaves the schedule and stops being pending; one that is not due stays both -/
theorem beginBlock_keeps_queuedOnce (s : State) (c : CId) (h : QueuedOnce s c) :
    QueuedOnce (beginBlockInfraction s) c := by
  have hcons := switch_counts_conserved s c
  unfold QueuedOnce at h ⊢
  by_cases hm : c ∈ (tqConsume s.infrQ s.now 200).1
  · -- taken from the queue: applied, so nothing is pending, and (scheduled at most once) not scheduled
    have hnone : ((beginBlockInfraction s).get c).qinfr = none :=
      foldl_of_mem (fun t : State => (t.get c).qinfr = none) hm _ (fun t => (switchStep t c c).2.1 rfl)
        fun t d hP => by
          by_cases hd : d = c
          · exact (switchStep t d c).2.1 hd
          · exact (congrArg Consumer.qinfr ((switchStep t d c).2.2 hd)).trans hP
    have hpos := List.length_pos_of_mem ((List.mem_filter (p := (· == c))).mpr ⟨hm, beq_self_eq_true c⟩)
    rw [hnone]
    have : countIn s.infrQ c ≤ 1 := by rw [h]; split <;> omega
    show _ = 0
    omega
  · -- not taken: record and schedule entries are as before
    have hsame : (beginBlockInfraction s).get c = s.get c :=
      foldl_inv (fun t : State => t.get c = s.get c) rfl
        fun t d hd hI => ((switchStep t d c).2.2 fun e => hm (e ▸ hd)).trans hI
    have hzero : ((tqConsume s.infrQ s.now 200).1.filter (· == c)).length = 0 :=
      List.length_eq_zero_iff.mpr (List.filter_eq_nil_iff.mpr fun a ha hac => hm (eq_of_beq hac ▸ ha))
    rw [hsame, ← h]
    omega

end ICS.Props.C20
