/-
  C01 — Consumer validator sets replicate the provider's decisions, in order.
  Set-algebra part: the provider sends `diff cur next`; the consumer accumulates the packets it
  receives in a block, applies them at EndBlock and forwards them to the consensus engine.
  The theorems say that, whatever the batching, the consumer ends exactly at the provider's set.
-/
import ICS.Lemmas.ValSet
import ICS.Spec.C01
namespace ICS.Props.C01
open ICS ICS.ValSet

/-- applying the provider's diff to the current set yields the next set (every key) -/
theorem apply_diff (cur next : List Val)
    (hc : (cur.map (·.key)).Nodup) (hn : (next.map (·.key)).Nodup) (k : Nat) :
    applyF (diff cur next) (lookup cur) k = lookup next k := by
  unfold diff
  -- each half produces at most one update per entry, under the entry's key
  rw [applyF_append, applyF_filterMap ?_ hn, applyF_filterMap ?_ hc, lookup_eq, lookup_eq]
  · cases hfc : cur.find? (·.key == k) with
    | none =>
      cases hfn : next.find? (·.key == k) with
      | none => rfl
      | some n =>
        -- a new validator: the second half adds it
        obtain rfl := key_of_find? hfn
        simp only [Option.bind_some, hfc]; rfl
    | some c =>
      obtain rfl := key_of_find? hfc
      cases hfn : next.find? (·.key == c.key) with
      | none =>
        -- a validator that left: the first half sends power 0
        simp only [Option.bind_some, hfn]; rfl
      | some n =>
        -- a validator that stays: the first half sends its new power if that differs
        simp only [Option.bind_some, hfn, key_of_find? hfn, hfc]
        split
        next => rfl
        next hp => simpa using hp
  · intro c y hy
    split at hy
    next => cases hy; rfl
    next n hfn =>
      split at hy
      · cases hy; exact key_of_find? hfn
      · cases hy
  · intro n y hy
    split at hy
    · cases hy; rfl
    · cases hy

/-- an empty diff means the sets agree: nothing is sent only if nothing changed -/
theorem diff_nil_iff_same (cur next : List Val)
    (hc : (cur.map (·.key)).Nodup) (hn : (next.map (·.key)).Nodup) (h : diff cur next = []) :
    ∀ k, lookup cur k = lookup next k := by
  intro k
  rw [← apply_diff cur next hc hn k, h]; rfl

/-- AccumulateChanges has the effect of the older list followed by the newer one -/
theorem accumulate_effect (rank : Nat → Nat) (cur new : List Update) (f : Nat → Nat) (k : Nat) :
    applyF (accumulate rank cur new) f k = applyF new (applyF cur f) k := by
  unfold accumulate
  rw [← applyF_perm (isort_perm _ _).symm (toMap_nodup _), toMap_effect, applyF_append]

/-- the accumulated list mentions every key at most once -/
theorem accumulate_nodup (rank : Nat → Nat) (cur new : List Update) :
    ((accumulate rank cur new).map (·.key)).Nodup := by
  unfold accumulate
  exact ((isort_perm _ _).map _).nodup_iff.mpr (toMap_nodup _)

/-- ApplyCCValidatorChanges: (i) the stored set stays well formed, -/
theorem applyCC_wf (cc : List Val) (hwf : CCWF cc) (changes : List Update) : CCWF (applyCC cc changes).1 :=
  foldl_inv (fun st : List Val × List Update => CCWF st.1) hwf fun _ ch _ h => applyOne_wf h ch

/-- (ii) it is the old set overridden by the changes, later entries winning, -/
theorem applyCC_effect (cc : List Val) (hwf : CCWF cc) (changes : List Update) (k : Nat) :
    lookup (applyCC cc changes).1 k = applyF changes (lookup cc) k :=
  congrFun (lookup_applyCC cc changes) k

/-- (iii) the updates handed to the consensus engine have the same effect on the old set, so engine
    and store never diverge.  (ii) and (iii) hold of any `cc`, see the lemmas they come from. -/
theorem applyCC_engine (cc : List Val) (hwf : CCWF cc) (changes : List Update) (k : Nat) :
    applyF (applyCC cc changes).2 (lookup cc) k = lookup (applyCC cc changes).1 k :=
  congrFun (applyF_applyCC cc changes) k

/-- pending changes after receiving packets `ps` (oldest first) in one consumer block -/
def pendingAfter (rank : Nat → Nat) (ps : List (List Update)) : List Update :=
  ps.foldl (fun pend p => accumulate rank pend p) []

theorem pendingAfter_effect (rank : Nat → Nat) (ps : List (List Update)) (f : Nat → Nat) :
    applyF (pendingAfter rank ps) f = ps.foldl (fun g p => applyF p g) f :=
  (List.foldl_hom (fun pend => applyF pend f)
    fun pend p => (funext (accumulate_effect rank pend p f)).symm).symm

/-- the provider's history: `sets[0]` is the set the consumer currently holds, each later set was
    sent as the diff to its predecessor -/
def packetsOf : List (List Val) → List (List Update)
  | [] => []
  | [_] => []
  | a :: b :: rest => diff a b :: packetsOf (b :: rest)

theorem chain_effect (sets : List (List Val)) (s0 : List Val)
    (hnd : ∀ s ∈ s0 :: sets, (s.map (·.key)).Nodup) :
    (packetsOf (s0 :: sets)).foldl (fun g p => applyF p g) (lookup s0)
      = lookup ((s0 :: sets).getLast (by simp)) := by
  induction sets generalizing s0 with
  | nil => rfl
  | cons s1 rest ih =>
    obtain ⟨h0, hrest⟩ := List.forall_mem_cons.mp hnd
    rw [packetsOf, List.foldl_cons, List.getLast_cons_cons,
      funext (apply_diff s0 s1 h0 (hrest s1 List.mem_cons_self))]
    exact ih s1 hrest

/-- **Replication, one consumer block, any batching.**  If the consumer holds the provider's set
    `s0` and receives, in one block, the packets leading through `sets` (any number, in order),
    then after EndBlock it holds exactly the last of these sets and has handed the consensus
    engine updates with exactly that effect. -/
theorem replication_block (rank : Nat → Nat) (cc : List Val) (hwf : CCWF cc)
    (s0 : List Val) (sets : List (List Val))
    (hnd : ∀ s ∈ s0 :: sets, (s.map (·.key)).Nodup) (hcc : ∀ k, lookup cc k = lookup s0 k) :
    let pend := pendingAfter rank (packetsOf (s0 :: sets))
    (∀ k, lookup (applyCC cc pend).1 k = lookup ((s0 :: sets).getLast (by simp)) k) ∧
    (∀ k, applyF (applyCC cc pend).2 (lookup cc) k = lookup ((s0 :: sets).getLast (by simp)) k) := by
  intro pend
  have key : lookup (applyCC cc pend).1 = lookup ((s0 :: sets).getLast (by simp)) := by
    rw [lookup_applyCC, pendingAfter_effect, funext hcc, chain_effect sets s0 hnd]
  exact ⟨congrFun key, fun k => (applyCC_engine cc hwf pend k).trans (congrFun key k)⟩

/-! ### any delivery schedule -/

/-- the last element of a non-empty history -/
def lastSet (s0 : List Val) (sets : List (List Val)) : List Val := sets.getLastD s0

theorem lastSet_eq (s0 : List Val) (sets : List (List Val)) : lastSet s0 sets = (s0 :: sets).getLast (by simp) :=
  (List.getLast_eq_getLastD _).symm

/-- a delivery schedule: consumer blocks, each receiving (in order) the packets that lead through the
    provider sets listed for it — none, one or many.  Returns the consumer's stored set and the
    provider set it should have reached. -/
def runBlocks (rank : Nat → Nat) : List Val → List Val → List (List (List Val)) → List Val × List Val
  | cc, prev, [] => (cc, prev)
  | cc, prev, b :: bs =>
    runBlocks rank (applyCC cc (pendingAfter rank (packetsOf (prev :: b)))).1 (lastSet prev b) bs

/-- **Replication under any schedule.**  However the ordered packet stream is cut into consumer
    blocks (empty blocks, one packet, many packets per block, arbitrarily long delays), after every
    block the consumer's stored validator set is exactly the provider set of the last packet
    delivered so far. -/
theorem replication_schedule (rank : Nat → Nat) (blocks : List (List (List Val)))
    (cc s0 : List Val) (hwf : CCWF cc) (hcc : ∀ k, lookup cc k = lookup s0 k)
    (hnd0 : (s0.map (·.key)).Nodup) (hnd : ∀ b ∈ blocks, ∀ s ∈ b, (s.map (·.key)).Nodup) :
    CCWF (runBlocks rank cc s0 blocks).1 ∧
    ∀ k, lookup (runBlocks rank cc s0 blocks).1 k = lookup (runBlocks rank cc s0 blocks).2 k := by
  induction blocks generalizing cc s0 with
  | nil => exact ⟨hwf, hcc⟩
  | cons b bs ih =>
    obtain ⟨hb, hbs⟩ := List.forall_mem_cons.mp hnd
    have hb0 : ∀ s ∈ s0 :: b, (s.map (·.key)).Nodup := List.forall_mem_cons.mpr ⟨hnd0, hb⟩
    have hr := (replication_block rank cc hwf s0 b hb0 hcc).1
    rw [← lastSet_eq] at hr
    exact ih _ _ (applyCC_wf cc hwf _) hr (hb0 _ List.getLastD_mem_cons) hbs

/-- the set the schedule should reach is the last provider set that was delivered -/
theorem runBlocks_target (rank : Nat → Nat) (blocks : List (List (List Val))) (cc s0 : List Val) :
    (runBlocks rank cc s0 blocks).2 = lastSet s0 blocks.flatten := by
  induction blocks generalizing cc s0 with
  | nil => rfl
  | cons b bs ih =>
    rw [runBlocks, ih, List.flatten_cons]
    exact (getLastD_append s0 b bs.flatten).symm

example : runBlocks id [⟨1, 5⟩] [⟨1, 5⟩] [[], [[⟨1, 5⟩, ⟨2, 3⟩], [⟨2, 4⟩]], [], [[⟨2, 4⟩, ⟨3, 1⟩]]]
    = ([⟨2, 4⟩, ⟨3, 1⟩], [⟨2, 4⟩, ⟨3, 1⟩]) := by decide

/-! ### non-vacuity -/

example : diff [⟨1, 5⟩, ⟨2, 7⟩, ⟨3, 1⟩] [⟨2, 9⟩, ⟨3, 1⟩, ⟨4, 2⟩] = [⟨1, 0⟩, ⟨2, 9⟩, ⟨4, 2⟩] := by decide

example : (applyCC [⟨1, 5⟩, ⟨2, 7⟩] [⟨1, 0⟩, ⟨9, 0⟩, ⟨2, 9⟩, ⟨4, 2⟩]) =
    ([⟨2, 9⟩, ⟨4, 2⟩], [⟨1, 0⟩, ⟨2, 9⟩, ⟨4, 2⟩]) := by decide

example : CCWF [⟨1, 5⟩, ⟨2, 7⟩] := ⟨by decide, by decide⟩

example : accumulate id [⟨1, 5⟩, ⟨2, 7⟩] [⟨2, 0⟩, ⟨3, 5⟩] = [⟨3, 5⟩, ⟨1, 5⟩, ⟨2, 0⟩] := by decide

end ICS.Props.C01
