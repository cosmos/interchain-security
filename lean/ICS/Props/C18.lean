/-
  C18 — Provider and consumer state machines are deterministic.
  (1) order-independence of the one place where the code enumerates a Go map (AccumulateChanges):
      whatever order the map is iterated in, and whatever (correct) sort is used, the result is
      the same list;
  (2) regenerated facts: the set of map-range / wall-clock / goroutine / rand sites in consensus
      code equals the audited set; block-hook call orders are as audited.
  (3) replicas are compared bit-for-bit by the harness (see evidence) — the Go runtime itself is
      not modelled.
-/
import ICS.Lemmas.ValSet
import ICS.Generated.Facts
namespace ICS.Props.C18
open ICS ICS.ValSet ICS.Generated

/-- **Order independence.**  For ANY enumeration `m'` of the Go map (any permutation of its
    entries) and ANY algorithm producing a permutation sorted by the comparator, the output equals
    the model's `accumulate`.  `rank` (the order of `PubKey.String()`) only needs to be injective
    on the keys present. -/
theorem accumulate_order_independent (rank : Nat → Nat) (cur new m' out : List Update)
    (hinj : ∀ a ∈ toMap (cur ++ new), ∀ b ∈ toMap (cur ++ new), rank a.key = rank b.key → a.key = b.key)
    (hm : m'.Perm (toMap (cur ++ new)))
    (hperm : out.Perm m') (hsorted : out.Pairwise (fun a b => accLE rank a b)) :
    out = accumulate rank cur new := by
  have hp := hperm.trans hm
  refine List.Perm.eq_of_pairwise (le := fun a b => accLE rank a b = true) (fun a b ha hb hab hba => ?_) hsorted
    (isort_pairwise _ (accLE_trans rank) (accLE_total rank) _) (hp.trans (isort_perm _ _).symm)
  have ha' := hp.mem_iff.mp ha
  have hb' := (isort_perm _ _).mem_iff.mp hb
  exact eq_of_key_eq (toMap_nodup _) ha' hb' (hinj a ha' b hb' (accLE_antisymm rank a b hab hba))

/-- in particular the result does not depend on the iteration order of the map -/
theorem accumulate_map_order_irrelevant (rank : Nat → Nat) (cur new m' : List Update)
    (hinj : ∀ a ∈ toMap (cur ++ new), ∀ b ∈ toMap (cur ++ new), rank a.key = rank b.key → a.key = b.key)
    (hm : m'.Perm (toMap (cur ++ new))) :
    isort (accLE rank) m' = accumulate rank cur new :=
  accumulate_order_independent rank cur new m' _ hinj hm (isort_perm _ _)
    (isort_pairwise _ (accLE_trans rank) (accLE_total rank) _)

/-! ### regenerated facts -/

/-- the only `range`-over-map sites in x/ccv/{provider,consumer,types} (non-test, non-generated):
    the two test-only key-name helpers (which sort afterwards) and AccumulateChanges (covered by
    the theorem above); no goroutines, `select`, wall-clock reads or `rand` in consensus code -/
theorem det_sites_audited : detSites =
    [("range-map", "x/ccv/provider/types/keys.go:GetAllKeyNames", "prefixMap"),
     ("range-map", "x/ccv/provider/types/keys.go:GetAllKeyPrefixes", "prefixMap"),
     ("range-map", "x/ccv/consumer/types/keys.go:GetAllKeyNames", "prefixMap"),
     ("range-map", "x/ccv/consumer/types/keys.go:GetAllKeyPrefixes", "prefixMap"),
     ("range-map", "x/ccv/types/utils.go:AccumulateChanges", "m")] := rfl

theorem provider_block_order :
    providerBeginBlock = ["BeginBlockLaunchConsumers", "BeginBlockRemoveConsumers",
      "BeginBlockUpdateInfractionParameters", "BeginBlockCIS", "BeginBlockRD"] ∧
    providerEndBlock = ["EndBlockCIS", "EndBlockVSU"] := ⟨rfl, rfl⟩

/-! ### non-vacuity -/
example : isort (accLE id) [⟨2, 0⟩, ⟨3, 5⟩, ⟨1, 5⟩] = isort (accLE id) [⟨1, 5⟩, ⟨2, 0⟩, ⟨3, 5⟩] := by decide

end ICS.Props.C18
