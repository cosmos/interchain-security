/-
  C13 — Consumers are isolated from one another (store-layout part).
  Theorems about the byte layout, instantiated on the key-space table REGENERATED from
  x/ccv/provider/types/keys.go and on the iterator sites regenerated from the keeper sources.
-/
import ICS.Model.Keys
namespace ICS.Props.C13
open ICS.Keys ICS.Generated

theorem be64_length (n : Nat) : (be64 n).length = 8 := rfl

/-- the eight bytes are the base-256 digits of `n` below `2^64`: peel them off `n % 2^64` from the
    top with `n % (a * 256) = n % a + a * (n / a % 256)` -/
theorem ofBe64_be64 (n : Nat) : ofBe64 (be64 n) = n % 2^64 := by
  have step (k : Nat) : n % 2^(k + 8) = n / 2^k % 256 * 2^k + n % 2^k := by
    rw [Nat.pow_add, Nat.mod_mul, Nat.add_comm, Nat.mul_comm]
  rw [step 56, step 48, step 40, step 32, step 24, step 16, step 8]
  simp only [be64, ofBe64, Nat.add_assoc]

theorem be64_inj {a b : Nat} (ha : a < 2^64) (hb : b < 2^64) (h : be64 a = be64 b) : a = b := by
  rw [← Nat.mod_eq_of_lt ha, ← Nat.mod_eq_of_lt hb, ← ofBe64_be64, ← ofBe64_be64, h]

/-- a length-prefixed key of consumer `id1` is never a prefix of (a key that starts with) the
    length-prefixed key of another consumer — so iterating the keys of "1" never meets "10" -/
theorem lenKey_prefix_free (p : Nat) (id1 id2 s : List Nat)
    (h1 : id1.length < 2^64) (h2 : id2.length < 2^64)
    (h : lenKey p id1 <+: lenKey p id2 ++ s) : id1 = id2 := by
  unfold lenKey at h
  simp only [List.cons_append, List.cons_prefix_cons, true_and, List.append_assoc] at h
  obtain ⟨t, ht⟩ := h
  rw [List.append_assoc] at ht
  -- the eight length bytes agree, hence the lengths, hence the ids
  have hb := List.append_inj ht ((be64_length _).trans (be64_length _).symm)
  exact (List.append_inj hb.2 (be64_inj h1 h2 hb.1)).1

/-- different key spaces never collide: keys of different prefixes are not prefixes of each other -/
theorem lenKey_prefix_ne (p q : Nat) (id1 id2 s : List Nat) (h : lenKey p id1 <+: lenKey q id2 ++ s) : p = q := by
  unfold lenKey at h
  simp only [List.cons_append, List.cons_prefix_cons] at h
  exact h.1

/-- the owner of a length-prefixed key (with any suffix: address, timestamp, denom) is its consumer -/
theorem ownerOf_lenKey (p : Nat) (id s : List Nat) (hid : id.length < 2^64)
    (hs : shapeOf p = some "len") : ownerOf (lenKey p id ++ s) = some (p, id) := by
  unfold ownerOf lenKey
  simp only [List.cons_append, hs, List.append_assoc]
  rw [List.take_left' (be64_length _), List.drop_left' (be64_length _), ofBe64_be64, Nat.mod_eq_of_lt hid,
    if_neg, List.take_left' rfl]
  rw [List.length_append, List.length_append, be64_length]
  omega

theorem ownerOf_legacyKey (p : Nat) (id : List Nat) (hs : shapeOf p = some "legacy") :
    ownerOf (legacyKey p id) = some (p, id) := by
  unfold ownerOf legacyKey; simp only [hs]

/-! ### obligations on the regenerated tables -/

/-- all provider key prefixes are pairwise distinct (table regenerated from getKeyPrefixes()) -/
theorem provider_prefixes_distinct : (providerPrefixes.map (·.2)).Nodup := by decide +kernel

theorem consumer_prefixes_distinct : (consumerPrefixes.map (·.2)).Nodup := by decide +kernel

/-- every prefix is a byte -/
theorem provider_prefixes_bytes : providerPrefixes.all (fun e => decide (e.2 < 256)) = true := by decide +kernel

/-- every per-consumer key constructor has a recognised layout and a known prefix byte -/
theorem spaces_classified :
    providerSpaces.all (fun e => (e.2.1 == "len" || e.2.1 == "legacy") && decide (e.2.2 < 256)) = true := by
  decide +kernel

/-- the legacy (`prefix|id`, not prefix-free) spaces are exactly the audited ones … -/
theorem legacy_spaces :
    (providerSpaces.filter (fun e => e.2.1 == "legacy")).map (·.1) =
      ["ConsumerGenesisKey", "ConsumerIdToChannelIdKey", "ConsumerIdToClientIdKey",
       "EquivocationEvidenceMinHeightKey", "InitChainHeightKey", "PendingVSCsKey", "SlashAcksKey"] := by
  decide +kernel

/-- … and no iterator ever walks a per-consumer sub-range of them: every iterator in the provider
    keeper is either over a length-prefixed per-consumer prefix, or over a whole key space, or one
    of the two audited helpers that receive a length-prefixed prefix from their callers -/
theorem iterators_classified :
    providerIterKinds.all (fun e =>
      e.2 == "len-per-consumer" || e.2 == "len-per-consumer-range" || e.2 == "whole-space" ||
      ((e.1 == "getValSet" || e.1 == "deleteValSet") && e.2 == "other:prefix")) = true := by
  decide +kernel

/-! ### non-vacuity: ids "1" and "10" -/

example : ¬ (lenKey 36 [49] <+: lenKey 36 [49, 48] ++ [7, 7]) := by decide
example : legacyKey 14 [49] <+: legacyKey 14 [49, 48] := by decide   -- why legacy spaces need exact access
example : ownerOf (lenKey 36 [49, 48] ++ [1, 2, 3]) = some (36, [49, 48]) := by decide
example : shapeOf 36 = some "len" := by decide
example : shapeOf 14 = some "legacy" := by decide

end ICS.Props.C13
