/-
  C08 — Downtime reports jail exactly the right validator and are acknowledged.
-/
import ICS.Lemmas.ProvBlock
import ICS.Lemmas.Slash
import ICS.Lemmas.Sort
namespace ICS.Props.C08
open ICS ICS.Provider

/-- double-sign slash packets never punish anyone: no staking effect, state and meter unchanged -/
theorem doublesign_noop (s : State) (t : Throttle) (vsc2h : List (Nat × Nat)) (chan : String) (p : SlashPkt)
    (h : p.infraction = 1) :
    (onRecvSlash s t vsc2h chan p).2.2.1 = [] ∧ (onRecvSlash s t vsc2h chan p).2.1 = t :=
  (onRecvSlash_quiet_or_handled s t vsc2h chan p).resolve_right fun h2 => absurd (h.symm.trans h2.1) (by decide)

/-- the staking effects of HandleSlashPacket are exactly: nothing, or slash + jail + jail-until of
    the validator described by `jailPlan` -/
theorem handleSlash_effects (s : State) (x : Consumer) (vsc2h : List (Nat × Nat)) (p : SlashPkt) :
    (handleSlash s x vsc2h p).2 =
      match jailPlan s x vsc2h p with
      | some (v, ih, dt) => [.slash v ih p.power dt.frac, .jail v, .jailUntil v (s.now + dt.jail)]
      | none => [] := by
  unfold handleSlash jailPlan
  dsimp only
  cases s.stk.find? (·.id == providerOf x p.key) with
  | none => rfl
  | some r =>
    dsimp only
    cases r.status == 1 with
    | true => rfl
    | false =>
      cases r.tomb with
      | true => rfl
      | false =>
        -- `jailPlan` consults `r.jailed` before the infraction height and the downtime parameters,
        -- `handleSlash` after them: at each leaf both sides compute once `r.jailed` is decided
        cases mappedInfractionHeight x vsc2h p.vscId with
        | none => cases r.jailed <;> rfl
        | some ih =>
          cases x.infr with
          | none => cases r.jailed <;> rfl
          | some ip =>
            dsimp only [Option.bind]
            cases ip.dt <;> cases r.jailed <;> rfl

/-- jailing happens exactly for the validator that owns the reported key (assigned key, replaced but
    not yet pruned key, or provider key by identity), which must exist, be neither unbonded nor
    tombstoned nor already jailed; the slash uses the consumer's OWN downtime parameters in force at
    handling time (C20) and the infraction height the update id resolves to (C12) -/
theorem jail_plan_spec (s : State) (x : Consumer) (vsc2h : List (Nat × Nat)) (p : SlashPkt)
    (v ih : Nat) (dt : SlashJail) (h : jailPlan s x vsc2h p = some (v, ih, dt)) :
    v = providerOf x p.key ∧
    (∃ r, s.stk.find? (·.id == v) = some r ∧ r.status ≠ 1 ∧ r.tomb = false ∧ r.jailed = false) ∧
    mappedInfractionHeight x vsc2h p.vscId = some ih ∧
    (∃ ip, x.infr = some ip ∧ ip.dt = some dt) := by
  unfold jailPlan at h
  dsimp only at h
  split at h
  · cases h
  · rename_i r hf
    split at h
    · cases h
    · rename_i hex
      split at h
      · rename_i ih' dt' hm hd
        cases h
        obtain ⟨ip, hi, hdt⟩ := Option.bind_eq_some_iff.mp hd
        simp only [Bool.or_eq_true, beq_iff_eq, not_or, Bool.not_eq_true] at hex
        exact ⟨rfl, ⟨r, hf, hex.1.1, hex.1.2, hex.2⟩, hm, ip, hi, hdt⟩
      · cases h

/-- no other validator is ever affected: every effect names the planned validator -/
theorem effects_hit_only_planned (s : State) (x : Consumer) (vsc2h : List (Nat × Nat)) (p : SlashPkt) :
    ∀ e ∈ (handleSlash s x vsc2h p).2,
      (match e with | .slash v _ _ _ => v | .jail v => v | .jailUntil v _ => v) = providerOf x p.key := by
  intro e he
  rw [handleSlash_effects] at he
  split at he
  · rename_i v ih dt hj
    simp only [List.mem_cons, List.mem_nil_iff, or_false] at he
    have hv := (jail_plan_spec s x vsc2h p v ih dt hj).1
    rcases he with rfl | rfl | rfl <;> exact hv
  · cases he

/-- the report is acknowledged (slash ack appended) when the consumer is not launched or the
    validator is not in the consumer's validator set -/
theorem ack_when_declined (s : State) (t : Throttle) (vsc2h : List (Nat × Nat)) (chan : String) (p : SlashPkt)
    (c : CId) (hc : s.chan2c.find? (·.1 == chan) = some (chan, c))
    (hpow : p.power ≠ 0) (hdt : p.infraction = 2)
    (hid : (mappedInfractionHeight (s.get c) vsc2h p.vscId).isNone = false)
    (hdecl : (s.get c).phase ≠ .launched ∨
             (s.get c).valset.any (·.v == providerOf (s.get c) p.key) = false) :
    (onRecvSlash s t vsc2h chan p).1 = s.set { s.get c with acks := (s.get c).acks ++ [p.key] } ∧
    (onRecvSlash s t vsc2h chan p).2.2.2 = .handled ∧ (onRecvSlash s t vsc2h chan p).2.2.1 = [] := by
  rcases hdecl with h | h <;> simp [onRecvSlash, hc, hpow, hdt, hid, h]

/-- packets carrying an update id the provider never issued are answered with an error
    acknowledgement and change nothing (C12) -/
theorem unknown_id_error (s : State) (t : Throttle) (vsc2h : List (Nat × Nat)) (chan : String) (p : SlashPkt)
    (c : CId) (hc : s.chan2c.find? (·.1 == chan) = some (chan, c))
    (hpow : p.power ≠ 0) (hinf : p.infraction = 1 ∨ p.infraction = 2)
    (hid : (mappedInfractionHeight (s.get c) vsc2h p.vscId).isNone = true) :
    onRecvSlash s t vsc2h chan p = (s, t, [], .error) := by
  rcases hinf with h | h <;> simp [onRecvSlash, hc, hpow, h, hid]

/-! ### consumer side: one outstanding downtime report per validator -/
open ICS.Consumer in
theorem downtime_once (s : Consumer.State) (key power ih : Nat) (h : s.outstanding.contains key = true) :
    Consumer.slash s key power ih 2 = s := by
  unfold Consumer.slash
  rw [h]
  rfl

open ICS.Consumer in
theorem downtime_sets_flag (s : Consumer.State) (key power ih : Nat) (h : s.outstanding.contains key = false) :
    key ∈ (Consumer.slash s key power ih 2).outstanding ∧
    (Consumer.slash s key power ih 2).queue = s.queue ++ [.slash key power (Consumer.getH2V s.h2v ih) 2] := by
  unfold Consumer.slash
  rw [h]
  refine ⟨(isort_perm _ _).mem_iff.mpr ?_, rfl⟩
  exact List.mem_append_right _ (List.mem_singleton_self key)

open ICS.Consumer in
/-- slash acknowledgements in a VSC packet clear exactly the named flags -/
theorem acks_clear_flags (rank : Nat → Nat) (s : Consumer.State) (chan : String) (id : Nat) (ups : List ValSet.Update)
    (acks : List Nat) (hid : id ≠ 0) (hch : s.pchan = some chan ∨ s.pchan = none) :
    (Consumer.onRecvVSC rank s chan id (some ups) acks).1.outstanding =
      s.outstanding.filter (fun k => !acks.contains k) := by
  rw [Consumer.onRecvVSC_eq rank s chan id ups acks hid, if_pos hch]

end ICS.Props.C08
