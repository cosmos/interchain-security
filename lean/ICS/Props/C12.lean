/-
  C12 — Validator-set update ids and infraction heights line up across chains.
-/
import ICS.Lemmas.ProvBlock
import ICS.Spec.C12
namespace ICS.Props.C12
open ICS ICS.Provider

/-- EndBlockCIS maps the id that is open during this block to this block's height + 1 -/
theorem cis_maps_open_id (s : State) (g : GlobalVS) :
    Spec.C12.lookupH (endBlockCIS s g).2.vsc2h s.vscId = some (s.height + 1) := by
  unfold endBlockCIS Spec.C12.lookupH
  dsimp only
  rw [find?_setV2H]

/-- the id counter increases by exactly one per epoch -/
theorem queue_increments_id (s s' : State) (h : queueVSC s = some s') : s'.vscId = s.vscId + 1 := by
  unfold queueVSC at h
  dsimp only at h
  split at h
  · cases h
  · rename_i s1 hs1
    -- processing one consumer writes at most a consumer record, never the counter
    have hid : s1.vscId = s.vscId :=
      foldl_some_inv (fun _ => rfl) (fun t => t.vscId = s.vscId) hs1 rfl fun t _ _ t' ht hI => by
        rcases queueOne_some ht with rfl | ⟨x, rfl⟩
        · exact hI
        · rw [set_vscId, hI]
    rw [← Option.some.inj h, ← hid]

/-- and not at all in a block that is not an epoch boundary -/
theorem no_increment_off_epoch (s : State) (g : GlobalVS) (s' : State) (g' : GlobalVS) (u : List ValSet.Update)
    (sent : List (CId × Packet)) (hoff : (endBlockCIS s g).1.height % (endBlockCIS s g).1.epoch ≠ 0)
    (h : endBlock s g = some (s', g', u, sent)) : s' = (endBlockCIS s g).1 ∧ sent = [] := by
  unfold endBlock at h
  dsimp only at h
  rw [if_neg fun hz => hoff (eq_of_beq hz)] at h
  have hr := Option.some.inj h
  exact ⟨(congrArg (·.1) hr).symm, (congrArg (·.2.2.2) hr).symm⟩

/-- id 0 resolves to the channel-opening height, other ids through the id↦height map; an id that was
    never issued does not resolve -/
theorem resolve_zero (x : Consumer) (m : List (Nat × Nat)) : mappedInfractionHeight x m 0 = x.initH := by
  unfold mappedInfractionHeight; exact if_pos rfl

theorem resolve_unknown (x : Consumer) (m : List (Nat × Nat)) (id : Nat) (h0 : id ≠ 0)
    (hn : ∀ e ∈ m, e.1 ≠ id) : mappedInfractionHeight x m id = none := by
  unfold mappedInfractionHeight
  rw [if_neg fun hz => h0 (eq_of_beq hz), List.find?_eq_none.mpr fun e he hz => hn e he (eq_of_beq hz)]

open ICS.Consumer in
/-- BeginBlock: the next height inherits the id of the current one -/
theorem begin_carries_forward (s : Consumer.State) :
    Consumer.getH2V (Consumer.beginBlock s).h2v (s.height + 1) = Consumer.getH2V s.h2v s.height :=
  Consumer.getH2V_setH2V _ _ _

open ICS.Consumer in
/-- a received update is associated with the NEXT height -/
theorem recv_sets_next_height (rank : Nat → Nat) (s : Consumer.State) (chan : String) (id : Nat) (ups : List ValSet.Update)
    (acks : List Nat) (hid : id ≠ 0) (hch : s.pchan = some chan ∨ s.pchan = none) :
    Consumer.getH2V (Consumer.onRecvVSC rank s chan id (some ups) acks).1.h2v (s.height + 1) = id := by
  rw [Consumer.onRecvVSC_eq rank s chan id ups acks hid, if_pos hch]
  exact Consumer.getH2V_setH2V _ _ _

open ICS.Consumer in
/-- a slash packet carries the id associated with the infraction height (0 if none is recorded) -/
theorem slash_carries_mapped_id (s : Consumer.State) (key power ih inf : Nat) (hinf : inf = 1 ∨ (inf = 2 ∧ s.outstanding.contains key = false)) :
    (Consumer.slash s key power ih inf).queue = s.queue ++ [.slash key power (Consumer.getH2V s.h2v ih) inf] := by
  unfold Consumer.slash
  rcases hinf with rfl | ⟨rfl, ho⟩
  · rfl
  · rw [ho]; rfl

end ICS.Props.C12
