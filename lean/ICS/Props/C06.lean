/-
  C06 — Replaced consumer keys stay attributable for the unbonding period.
-/
import ICS.Lemmas.KeyAssign
namespace ICS.Props.C06
open ICS ICS.Provider

/-- replacing key `old` on a LAUNCHED consumer keeps `old` resolving to the validator and
    schedules it for pruning exactly one unbonding period later -/
theorem replaced_key_kept (s s' : State) (c : CId) (v key old : Nat)
    (hl : (s.get c).phase = .launched) (hold : assignedKey (s.get c) v = some old)
    (hres : resolveKey (s.get c) old = some v)
    (h : assignKey s c v key = some s') :
    resolveKey (s'.get c) old = some v ∧
    (∃ e ∈ (s'.get c).prune, e.1 = s.now + s.unbonding ∧ old ∈ e.2) := by
  obtain ⟨hok, rfl⟩ := assignKey_some h
  rw [get_set_id s _ c ((assignRecord_id _ _ _ _).trans (get_id s c))]
  constructor
  · -- the new key differs from the old one: the old one still resolves, the new one did not
    rw [resolveKey_assignRecord, if_neg, if_neg fun h => h.1 hl, hres]
    intro he
    rw [he, assignOK_free hok] at hres
    cases hres
  · rw [prune_assignRecord, hold]
    dsimp only
    rw [if_pos hl, Bucket.pruneAppend_eq]
    exact Bucket.exists_mem_append _ _ old

/-- before launch the old key is forgotten at once -/
theorem prelaunch_forgets (s s' : State) (c : CId) (v key old : Nat)
    (hl : (s.get c).phase ≠ .launched) (hold : assignedKey (s.get c) v = some old)
    (hne : old ≠ key)
    (h : assignKey s c v key = some s') : resolveKey (s'.get c) old = none := by
  obtain ⟨_, rfl⟩ := assignKey_some h
  rw [get_set_id s _ c ((assignRecord_id _ _ _ _).trans (get_id s c)), resolveKey_assignRecord,
    if_neg hne, if_pos ⟨hl, hold⟩]

/-- pruning at block time `now` forgets only keys whose deadline has been reached:
    a key scheduled for a later time keeps resolving -/
theorem prune_not_early (x : Consumer) (now : Time) (k : Nat)
    (hfuture : ∀ e ∈ x.prune, k ∈ e.2 → now < e.1) :
    resolveKey (pruneKeys x now) k = resolveKey x k := by
  rw [resolveKey_pruneKeys, if_neg]
  intro hm
  obtain ⟨e, he, hk⟩ := List.mem_flatMap.mp hm
  exact Int.not_le.mpr (hfuture e (List.mem_filter.mp he).1 hk) (of_decide_eq_true (List.mem_filter.mp he).2)

/-- and once the deadline has been reached the key is forgotten -/
theorem pruned_when_due (x : Consumer) (now : Time) (k : Nat)
    (hdue : ∃ e ∈ x.prune, k ∈ e.2 ∧ e.1 ≤ now) : resolveKey (pruneKeys x now) k = none := by
  obtain ⟨e, he, hk, ht⟩ := hdue
  rw [resolveKey_pruneKeys, if_pos]
  exact List.mem_flatMap.mpr ⟨e, List.mem_filter.mpr ⟨he, decide_eq_true ht⟩, hk⟩

/-- a key that was never assigned resolves to the validator owning it as provider key -/
theorem identity_fallback (x : Consumer) (k : Nat) (h : resolveKey x k = none) : providerOf x k = k := by
  unfold providerOf; simp [h]

/-- a key that resolves is attributed to the recorded validator -/
theorem resolves_to_recorded (x : Consumer) (k v : Nat) (h : resolveKey x k = some v) : providerOf x k = v := by
  unfold providerOf; simp [h]

end ICS.Props.C06
