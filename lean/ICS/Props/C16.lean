/-
  C16 — rewards are conserved and reach only eligible validators (provider side: crediting by the
  transfer middleware, AllocateTokens / AllocateConsumerRewards / AllocateTokensToConsumerValidators).

  All amounts of credits and validator payouts are 10^18-scaled naturals (`one`), exactly the
  integer the SDK's LegacyDec stores; the model's arithmetic is therefore the implementation's
  arithmetic, not an idealisation of it (checked per step by the correspondence stream `rewards`).
-/
import ICS.Lemmas.Rewards
import ICS.Spec.C16
namespace ICS.Props.C16
open ICS ICS.Rewards ICS.Epoch

/-! ### one (consumer, denom) step: AllocateConsumerRewards -/

/-- the credit is split EXACTLY into what goes to the distribution module, what goes to the
    community pool and what stays credited: nothing is created or lost -/
theorem step_conserves_credit (credit tax : Nat) (vals : List CVal) (h e : Nat) :
    let p := allocateConsumerRewards credit tax vals h e
    p.toDistr * one + p.toCP * one + p.left = credit := by
  rcases allocateConsumerRewards_cases credit tax vals h e with ⟨-, hp⟩ | ⟨-, hp⟩ <;> simp only [hp]
  · have := Nat.div_add_mod' credit one
    omega
  · have hle := mulTrunc_le credit (Nat.sub_le one tax)
    have h1 := Nat.div_add_mod' (mulTrunc credit (one - tax)) one
    have h2 := Nat.div_add_mod' (credit - mulTrunc credit (one - tax)) one
    omega

/-- what stays credited is less than two tokens (rounding remainders only) -/
theorem step_left_small (credit tax : Nat) (vals : List CVal) (h e : Nat) :
    (allocateConsumerRewards credit tax vals h e).left < 2 * one := by
  rcases allocateConsumerRewards_cases credit tax vals h e with ⟨-, hp⟩ | ⟨-, hp⟩ <;> simp only [hp]
  · have := Nat.mod_lt credit one_pos
    omega
  · have h1 := Nat.mod_lt (mulTrunc credit (one - tax)) one_pos
    have h2 := Nat.mod_lt (credit - mulTrunc credit (one - tax)) one_pos
    omega

/-- the payouts of a step add up to the tokens moved to the distribution module, less at most
    tokens · 10⁻¹⁸ of rounding dust per paid validator -/
theorem step_pays_bounds (credit tax : Nat) (vals : List CVal) (h e : Nat) :
    let p := allocateConsumerRewards credit tax vals h e
    (p.pays.map (·.amount)).sum ≤ p.toDistr * one ∧
    p.toDistr * one ≤ (p.pays.map (·.amount)).sum + p.pays.length * p.toDistr := by
  rcases allocateConsumerRewards_cases credit tax vals h e with ⟨-, hp⟩ | ⟨htot, hp⟩ <;> simp only [hp]
  · exact ⟨Nat.zero_le _, Nat.le_refl _⟩
  · split
    · next h0 => rw [h0]; exact ⟨Nat.zero_le _, Nat.le_refl _⟩
    · -- every payout is exactly tokens × fraction: the bounds on the sum of the fractions, times the tokens
      obtain ⟨hF1, hF2⟩ := fractions_bounds _ _ htot
      simp only [List.map_map, List.length_map, Function.comp_def, mulTrunc_mul_one, sum_map_mul_left]
      rw [Nat.mul_comm (List.length _), ← Nat.mul_add]
      exact ⟨Nat.mul_le_mul_left _ hF1, Nat.mul_le_mul_left _ hF2⟩

/-- NEVER OVERPAID: the validators of a step together receive at most what was moved to the
    distribution module for them -/
theorem step_never_overpays (credit tax : Nat) (vals : List CVal) (h e : Nat) :
    let p := allocateConsumerRewards credit tax vals h e
    (p.pays.map (·.amount)).sum ≤ p.toDistr * one :=
  (step_pays_bounds credit tax vals h e).1

/-- ONLY ELIGIBLE MEMBERS: every payout of a step goes to a validator that is in the consumer's
    current validator set and has been for the required number of blocks -/
theorem step_pays_only_eligible (credit tax : Nat) (vals : List CVal) (h e : Nat) :
    ∀ pay ∈ (allocateConsumerRewards credit tax vals h e).pays,
      ∃ c ∈ vals, c.v = pay.v ∧ eligible h c.join e = true := by
  intro pay hpay
  rcases allocateConsumerRewards_cases credit tax vals h e with ⟨-, hp⟩ | ⟨-, hp⟩ <;> rw [hp] at hpay
  · cases hpay
  · obtain ⟨c, hc, rfl⟩ := List.mem_map.mp (List.mem_ite_nil_left.mp hpay).2
    obtain ⟨hm, he⟩ := List.mem_filter.mp hc
    exact ⟨c, hm, rfl, he⟩

/-- … and every eligible member is paid (when at least one token reaches the validators) -/
theorem step_pays_every_eligible (credit tax : Nat) (vals : List CVal) (h e : Nat) (c : CVal)
    (hc : c ∈ vals) (he : eligible h c.join e = true) (hpow : 0 < c.power)
    (hv : 0 < mulTrunc credit (one - tax) / one) :
    ∃ pay ∈ (allocateConsumerRewards credit tax vals h e).pays, pay.v = c.v := by
  have hmem : c ∈ vals.filter fun c => eligible h c.join e := List.mem_filter.mpr ⟨hc, he⟩
  rcases allocateConsumerRewards_cases credit tax vals h e with ⟨h0, -⟩ | ⟨-, hp⟩
  · have := List.sum_eq_zero_iff_forall_eq_nat.mp h0 c.power (List.mem_map_of_mem hmem)
    omega
  · rw [hp, if_neg (Nat.ne_of_gt hv)]
    exact ⟨_, List.mem_map_of_mem hmem, rfl⟩

/-- PROPORTIONAL: within one step a validator with at least the consumer voting power of another
    receives at least as much -/
theorem pay_monotone_in_power (vT total p q : Nat) (h : p ≤ q) :
    mulTrunc (vT * one) (quoTruncInt p total) ≤ mulTrunc (vT * one) (quoTruncInt q total) :=
  Nat.div_le_div_right (Nat.mul_le_mul_left _ (Nat.div_le_div_right (Nat.mul_le_mul_right _ h)))

/-- a validator's payout never exceeds its exact proportional share power/total of the tokens -/
theorem pay_le_share (vT total p : Nat) :
    mulTrunc (vT * one) (quoTruncInt p total) * total ≤ vT * one * p := by
  rw [mulTrunc_mul_one, Nat.mul_assoc, Nat.mul_assoc, Nat.mul_comm one]
  exact Nat.mul_le_mul_left vT (Nat.div_mul_le_self (p * one) total)

/-- rounding dust: nothing moved to the distribution module is left dangling, except less than
    (tokens + 1) · 10⁻¹⁸ per paid validator -/
theorem step_nothing_dangling (credit tax : Nat) (vals : List CVal) (h e : Nat) :
    let p := allocateConsumerRewards credit tax vals h e
    p.toDistr * one ≤ (p.pays.map (·.amount)).sum + p.pays.length * (p.toDistr + 1) :=
  Nat.le_trans (step_pays_bounds credit tax vals h e).2
    (Nat.add_le_add_left (Nat.mul_le_mul_left _ (Nat.le_succ _)) _)

/-! ### crediting (transfer middleware) -/

/-- a reward transfer is credited in full, to the scaled unit -/
theorem credit_exact (old amt : Nat) : Rewards.credit old amt = old + amt * one := by
  unfold Rewards.credit; rw [Nat.mul_comm]

def WF (cr : Credits) : Prop := cr.Pairwise (fun a b => a.1 ≠ b.1)

def totalCredit (cr : Credits) (d : String) : Nat := ((cr.filter (·.1.2 == d)).map (·.2)).sum

theorem totalCredit_cons (x : (Provider.CId × String) × Nat) (xs : Credits) (d : String) :
    totalCredit (x :: xs) d = (if d = x.1.2 then x.2 else 0) + totalCredit xs d := by
  unfold totalCredit
  rw [List.filter_cons]
  by_cases h : x.1.2 = d
  · simp [h]
  · simp [h, Ne.symm h]

theorem totalCredit_append (a b : Credits) (d : String) :
    totalCredit (a ++ b) d = totalCredit a d + totalCredit b d := by
  simp only [totalCredit, List.filter_append, List.map_append, List.sum_append_nat]

section Credits
variable {cr : Credits} (hw : WF cr) (c : Provider.CId) (d d' : String) (v amt : Nat)
include hw

theorem wf_setCredit : WF (setCredit cr c d v) := by
  have hr : WF (cr.filter fun e => !(e.1.1 == c && e.1.2 == d)) := List.Pairwise.filter _ hw
  unfold setCredit
  split
  · exact hr
  · refine List.pairwise_append.mpr ⟨hr, List.pairwise_singleton _ _, fun a ha b hb => ?_⟩
    rw [List.mem_singleton.mp hb]
    -- the filter's test unfolds to `a.1 != (c, d)`
    exact bne_iff_ne.mp (List.mem_filter.mp ha).2

/-- with distinct keys, dropping the entry of (c, d) lowers the total of denom d by exactly that
    credit, and leaves the other denoms alone -/
theorem totalCredit_remove :
    totalCredit (cr.filter fun e => !(e.1.1 == c && e.1.2 == d)) d' + (if d' = d then getCredit cr c d else 0)
      = totalCredit cr d' := by
  induction hw with
  | nil => split <;> rfl
  | @cons x xs hx _ ih =>
    cases hk : (x.1.1 == c && x.1.2 == d)
    · simp only [getCredit, List.filter_cons, List.find?_cons, hk, Bool.not_false, if_true] at ih ⊢
      rw [totalCredit_cons, totalCredit_cons]
      omega
    · simp only [getCredit, List.filter_cons, List.find?_cons, hk, Bool.not_true, Bool.false_eq_true,
        if_false]
      obtain ⟨rfl, rfl⟩ : x.1.1 = c ∧ x.1.2 = d := by simpa using hk
      -- the keys are distinct, so x is the only entry of (c, d)
      have hrest : xs.filter (fun e => !(e.1.1 == x.1.1 && e.1.2 == x.1.2)) = xs :=
        List.filter_eq_self.mpr fun a ha => bne_iff_ne.mpr (hx a ha).symm
      rw [hrest, totalCredit_cons]
      omega

theorem getCredit_le_total : getCredit cr c d ≤ totalCredit cr d := by
  have := totalCredit_remove hw c d d
  rw [if_pos rfl] at this
  omega

/-- a write to (c, d) changes the total of denom d by the change of that credit, and no other total -/
theorem totalCredit_setCredit :
    totalCredit (setCredit cr c d v) d' + (if d' = d then getCredit cr c d else 0)
      = totalCredit cr d' + (if d' = d then v else 0) := by
  have hr := totalCredit_remove hw c d d'
  simp only [setCredit]
  split
  · next hv =>
    rw [eq_of_beq hv, hr]
    split <;> rfl
  · have hnil : totalCredit [] d' = 0 := rfl
    simp only [totalCredit_append, totalCredit_cons, hnil]
    omega

/-- crediting `amt` tokens of denom `d` to a consumer adds `amt * one` to the total of `d` -/
theorem totalCredit_credit :
    totalCredit (setCredit cr c d (Rewards.credit (getCredit cr c d) amt)) d'
      = totalCredit cr d' + (if d' = d then amt else 0) * one := by
  have := totalCredit_setCredit hw c d d' (Rewards.credit (getCredit cr c d) amt)
  rw [credit_exact] at this ⊢
  by_cases hd : d' = d
  · simp only [if_pos hd] at this ⊢; omega
  · simp only [if_neg hd] at this ⊢; omega

end Credits

/-! ### AllocateTokens over all consumers and denoms -/

/-- the three module accounts together hold the same amount of every denom before and after
    AllocateTokens: no tokens are created or lost -/
def bankTotal (r : AllocResult) (d : String) : Nat := getBal r.pool d + getBal r.distr d + getBal r.cp d

/-- per denom: credits + 10^18 · (tokens in the distribution module + community pool) -/
def creditPlusOut (r : AllocResult) (d : String) : Nat :=
  totalCredit r.credits d + (getBal r.distr d + getBal r.cp d) * one

def Backed (r : AllocResult) : Prop := ∀ d, totalCredit r.credits d ≤ getBal r.pool d * one

section AllocStep
variable (tax h e : Nat) (c : Provider.CId) (vals : List CVal) (r : AllocResult) (dn : String)

/-- what one step does, seen in a single denom `d`: `a` tokens go from the pool to the distribution
    module and `b` to the community pool, and the credits of `d` go down by exactly `(a + b) * one`
    (`a = b = 0` if the step is skipped or `d` is not its denom) -/
theorem allocStep_moves (d : String) :
    let r' := allocStep tax h e c vals r dn
    ∃ a b, a + b ≤ getBal r.pool d ∧ getBal r'.pool d = getBal r.pool d - (a + b) ∧
      getBal r'.distr d = getBal r.distr d + a ∧ getBal r'.cp d = getBal r.cp d + b ∧
      (WF r.credits → totalCredit r'.credits d + (a + b) * one = totalCredit r.credits d) := by
  rcases allocStep_cases tax h e c vals r dn with hs | ⟨hle, hs⟩ <;> rw [hs]
  · exact ⟨0, 0, Nat.zero_le _, rfl, rfl, rfl, fun _ => rfl⟩
  · simp only [getBal_setBal]
    by_cases hd : d = dn
    · subst hd
      refine ⟨_, _, hle, by rw [if_pos rfl, Nat.sub_sub], if_pos rfl, if_pos rfl, fun hw => ?_⟩
      have hs := totalCredit_setCredit hw c d d (allocateConsumerRewards (getCredit r.credits c d) tax vals h e).left
      have hc := step_conserves_credit (getCredit r.credits c d) tax vals h e
      simp only [if_pos, Nat.add_mul] at hs hc ⊢
      omega
    · exact ⟨0, 0, Nat.zero_le _, if_neg hd, if_neg hd, if_neg hd,
        fun hw => by simpa only [if_neg hd, Nat.add_zero, Nat.zero_mul] using totalCredit_setCredit hw c dn d _⟩

variable {tax h e c vals r dn}

theorem allocStep_wf (hw : WF r.credits) : WF (allocStep tax h e c vals r dn).credits := by
  rcases allocStep_cases tax h e c vals r dn with hs | ⟨-, hs⟩ <;> rw [hs]
  · exact hw
  · exact wf_setCredit hw c dn _

theorem allocStep_bank (d : String) :
    bankTotal (allocStep tax h e c vals r dn) d = bankTotal r d := by
  obtain ⟨a, b, hle, hp, hd, hc, -⟩ := allocStep_moves tax h e c vals r dn d
  unfold bankTotal
  omega

theorem allocStep_credit (d : String) (hw : WF r.credits) :
    creditPlusOut (allocStep tax h e c vals r dn) d = creditPlusOut r d := by
  obtain ⟨a, b, -, -, hd, hc, ht⟩ := allocStep_moves tax h e c vals r dn d
  have := ht hw
  simp only [creditPlusOut, hd, hc, Nat.add_mul] at this ⊢
  omega

end AllocStep

theorem allocateTokens_bank_conserved (consumers : List (Provider.CId × List CVal × List String)) (gd : List String)
    (credits : Credits) (pool distr cp : Bal) (tax h e : Nat) (d : String) :
    bankTotal (allocateTokens consumers gd credits pool distr cp tax h e) d
      = getBal pool d + getBal distr d + getBal cp d :=
  allocateTokens_inv (fun r => bankTotal r d = getBal pool d + getBal distr d + getBal cp d)
    (fun _ _ _ _ hr => (allocStep_bank d).trans hr) consumers gd rfl

/-- CREDITS CONSERVED over a whole AllocateTokens: for every denom, the total credited goes down by
    exactly 10^18 times the tokens that reached the distribution module and the community pool -/
theorem allocateTokens_credit_conserved (consumers : List (Provider.CId × List CVal × List String)) (gd : List String)
    (credits : Credits) (pool distr cp : Bal) (tax h e : Nat) (d : String) (hw : WF credits) :
    let r := allocateTokens consumers gd credits pool distr cp tax h e
    WF r.credits ∧
    totalCredit r.credits d + (getBal r.distr d + getBal r.cp d) * one
      = totalCredit credits d + (getBal distr d + getBal cp d) * one :=
  allocateTokens_inv
    (fun r => WF r.credits ∧ creditPlusOut r d = totalCredit credits d + (getBal distr d + getBal cp d) * one)
    (fun _ _ _ _ hr => ⟨allocStep_wf hr.1, (allocStep_credit d hr.1).trans hr.2⟩)
    consumers gd ⟨hw, rfl⟩

/-! ### credits are always backed by the pool, so the roll-back branch is never taken -/

theorem allocStep_backed (tax h e : Nat) (c : Provider.CId) (vals : List CVal) (r : AllocResult) (dn : String)
    (hw : WF r.credits) (hb : Backed r) :
    Backed (allocStep tax h e c vals r dn) ∧
    -- never paid out more than was credited: the pool always covers the step
    ¬ (getBal r.pool dn < (allocateConsumerRewards (getCredit r.credits c dn) tax vals h e).toDistr
        + (allocateConsumerRewards (getCredit r.credits c dn) tax vals h e).toCP) := by
  constructor
  · intro d
    obtain ⟨a, b, hle, hp, -, -, ht⟩ := allocStep_moves tax h e c vals r dn d
    have := ht hw
    have := hb d
    rw [hp, Nat.sub_mul]
    omega
  · -- the payout is at most the consumer's credit, which is part of the backed total
    have hc := step_conserves_credit (getCredit r.credits c dn) tax vals h e
    have hle := getCredit_le_total hw c dn
    have := hb dn
    refine Nat.not_lt.mpr (Nat.le_of_mul_le_mul_right ?_ one_pos)
    simp only [Nat.add_mul] at hc ⊢
    omega

/-- crediting a received transfer keeps the credits backed: the pool receives `amt` tokens, the
    consumer `amt`·10^18 credit -/
theorem credit_backed (cr : Credits) (pool : Bal) (c : Provider.CId) (dn : String) (amt : Nat) (hw : WF cr)
    (hb : ∀ d, totalCredit cr d ≤ getBal pool d * one) :
    ∀ d, totalCredit (setCredit cr c dn (Rewards.credit (getCredit cr c dn) amt)) d
        ≤ getBal (setBal pool dn (getBal pool dn + amt)) d * one := by
  intro d
  rw [totalCredit_credit hw, getBal_setBal_add, Nat.add_mul]
  exact Nat.add_le_add_right (hb d) _

/-! ### every reachable provider state: credits are backed, the ledger balances -/

/-- the provider-side reward ledger and the two operations that change it -/
structure Ledger where
  credits : Credits := []
  pool    : Bal := []
  distr   : Bal := []
  cp      : Bal := []
  received : Bal := []      -- history: everything ever credited, per denom

inductive LOp
  | receive (c : Provider.CId) (d : String) (amt : Nat)       -- a reward transfer credited to consumer c
  | allocate (consumers : List (Provider.CId × List CVal × List String)) (gd : List String) (tax h e : Nat)

def Ledger.step (l : Ledger) : LOp → Ledger
  | .receive c d amt =>
    { l with credits := setCredit l.credits c d (Rewards.credit (getCredit l.credits c d) amt),
             pool := setBal l.pool d (getBal l.pool d + amt),
             received := setBal l.received d (getBal l.received d + amt) }
  | .allocate cs gd tax h e =>
    let r := allocateTokens cs gd l.credits l.pool l.distr l.cp tax h e
    { l with credits := r.credits, pool := r.pool, distr := r.distr, cp := r.cp }

/-- the invariant of the accounts `r` against the history `received`: distinct credit keys; credits
    backed by the pool; per denom, everything ever received is in one of the three accounts, and what
    has been paid out plus what is still credited is exactly what was received (so never more is paid
    out than was credited) -/
def InvOf (received : Bal) (r : AllocResult) : Prop :=
  WF r.credits ∧ Backed r ∧
  ∀ d, bankTotal r d = getBal received d ∧ creditPlusOut r d = getBal received d * one

def Ledger.Inv (l : Ledger) : Prop :=
  InvOf l.received { credits := l.credits, pool := l.pool, distr := l.distr, cp := l.cp, steps := [] }

theorem ledger_step (l : Ledger) (op : LOp) (hi : l.Inv) : (l.step op).Inv := by
  cases op with
  | receive c d amt =>
    obtain ⟨hw, hb, hd⟩ := hi
    refine ⟨wf_setCredit hw c d _, credit_backed _ _ c d amt hw hb, fun d' => ?_⟩
    have := hd d'
    simp only [bankTotal, creditPlusOut, Ledger.step, getBal_setBal_add, totalCredit_credit hw, Nat.add_mul] at this ⊢
    omega
  | allocate cs gd tax h e =>
    exact allocateTokens_inv (InvOf l.received)
      (fun c vals r dn ⟨hw, hb, hd⟩ =>
        ⟨allocStep_wf hw, (allocStep_backed tax h e c vals r dn hw hb).1,
         fun d => ⟨(allocStep_bank d).trans (hd d).1, (allocStep_credit d hw).trans (hd d).2⟩⟩)
      cs gd hi

/-- FOR EVERY HISTORY of reward transfers and allocations, starting from nothing: the invariant
    holds; in particular what reached the distribution module and the community pool never exceeds
    what was credited, and credits + payouts = receipts, exactly, in every denom -/
theorem ledger_reachable (ops : List LOp) : (ops.foldl Ledger.step {}).Inv :=
  foldl_inv Ledger.Inv
    ⟨List.Pairwise.nil, fun _ => Nat.zero_le _,
      fun _ => ⟨rfl, show 0 + (0 + 0) * one = 0 * one from (Nat.zero_mul one).symm⟩⟩
    fun l op _ => ledger_step l op

theorem never_paid_more_than_credited (ops : List LOp) (d : String) :
    getBal (ops.foldl Ledger.step {}).distr d + getBal (ops.foldl Ledger.step {}).cp d
      ≤ getBal (ops.foldl Ledger.step {}).received d := by
  have := ((ledger_reachable ops).2.2 d).1
  simp only [bankTotal] at this
  omega

/-! ### consumer side: EndBlockRD -/

/-- the collected fees of a denom are split EXACTLY into the consumer's share (the fraction,
    rounded down) and the provider's share -/
theorem split_exact (amt frac : Nat) (hf : frac ≤ one) :
    consumerShare amt frac + (amt - consumerShare amt frac) = amt ∧
    consumerShare amt frac * one ≤ amt * frac ∧ amt * frac < (consumerShare amt frac + 1) * one := by
  have : consumerShare amt frac ≤ amt := mulTrunc_le amt hf
  refine ⟨by omega, Nat.div_mul_le_self _ _, ?_⟩
  rw [Nat.add_mul, Nat.one_mul]
  exact Nat.lt_div_mul_add one_pos

def crTotal (s : CRState) (d : String) : Nat :=
  getBal s.fc d + getBal s.redis d + getBal s.toSend d + getBal s.escrow d

theorem splitOne_conserves (frac : Nat) (hf : frac ≤ one) (s : CRState) (dn d : String) :
    crTotal (splitOne frac s dn) d = crTotal s d := by
  have : consumerShare (getBal s.fc dn) frac ≤ getBal s.fc dn := mulTrunc_le _ hf
  simp only [crTotal, splitOne, addBal, getBal_setBal]
  split
  · next hd => rw [hd]; omega
  · rfl

/-- the split never touches what is already waiting to be sent or in flight: tokens returned by a
    failed transfer are not split a second time -/
theorem splitOne_frame (frac : Nat) (s : CRState) (dn : String) :
    (splitOne frac s dn).escrow = s.escrow ∧
    ∀ d, getBal (splitOne frac s dn).toSend d ≥ getBal s.toSend d ∧ getBal (splitOne frac s dn).redis d ≥ getBal s.redis d := by
  refine ⟨rfl, fun d => ?_⟩
  simp only [splitOne, addBal, getBal_setBal_add]
  exact ⟨Nat.le_add_right _ _, Nat.le_add_right _ _⟩

theorem sendOne_conserves (acc : CRState × List (String × Nat)) (dn d : String) :
    crTotal (sendOneDenom acc dn).1 d = crTotal acc.1 d := by
  simp only [sendOneDenom]
  split
  · rfl
  · simp only [crTotal, addBal, getBal_setBal]
    split
    · next hd => rw [hd]; omega
    · rfl

/-- NO TOKENS CREATED OR LOST on the consumer: fee collector + redistribution account + send buffer +
    transfers in flight hold the same amount of every denom before and after EndBlockRD -/
theorem endBlockRD_conserves (s : CRState) (h frac bpdt : Nat) (allowed : List String) (o : Bool) (k : Nat)
    (hf : frac ≤ one) (d : String) :
    crTotal (endBlockRD s h frac bpdt allowed o k).1 d = crTotal s d := by
  have hd : crTotal (distributeInternally s frac) d = crTotal s d :=
    foldl_inv (fun x => crTotal x d = crTotal s d) rfl fun x dn _ hx => (splitOne_conserves frac hf x dn d).trans hx
  simp only [endBlockRD]
  split
  · rcases sendRewards_cases (distributeInternally s frac) allowed o k with hs | hs <;> rw [hs]
    · exact hd
    · exact foldl_inv (f := sendOneDenom) (s := (distributeInternally s frac, []))
        (fun a => crTotal a.1 d = crTotal s d) hd fun a dn _ ha => (sendOne_conserves a dn d).trans ha
  · exact hd

/-- ALLOWED DENOMS ONLY: whatever is transferred to the provider is in a configured reward denom -/
theorem endBlockRD_allowed_only (s : CRState) (h frac bpdt : Nat) (allowed : List String) (o : Bool) (k : Nat) :
    ∀ t ∈ (endBlockRD s h frac bpdt allowed o k).2, t.1 ∈ allowed := by
  simp only [endBlockRD]
  split
  · rcases sendRewards_cases (distributeInternally s frac) allowed o k with hs | hs <;> rw [hs]
    · exact List.forall_mem_nil _
    · refine foldl_inv (f := sendOneDenom) (s := (distributeInternally s frac, []))
        (fun a => ∀ t ∈ a.2, t.1 ∈ allowed) (List.forall_mem_nil _) fun a dn hdn ha => ?_
      simp only [sendOneDenom]
      split
      · exact ha
      · exact List.forall_mem_append.mpr ⟨ha, List.forall_mem_singleton.mpr hdn⟩
  · exact List.forall_mem_nil _

/-- nothing is sent while the transfer channel is not open, or before the transmission period is over -/
theorem endBlockRD_gated (s : CRState) (h frac bpdt : Nat) (allowed : List String) (o : Bool) (k : Nat)
    (hg : o = false ∨ h < s.ltbh + bpdt) :
    (endBlockRD s h frac bpdt allowed o k).2 = [] := by
  have hl : (distributeInternally s frac).ltbh = s.ltbh :=
    foldl_inv (fun x : CRState => x.ltbh = s.ltbh) rfl fun _ _ _ hx => hx
  simp only [endBlockRD, hl]
  split
  · rcases hg with rfl | hg
    · rfl
    · omega
  · rfl

/-! ### the hypotheses are met by non-trivial concrete states (tests, not theorems) -/

/-- 100 tokens, 2 % tax, powers 3 : 1 (one more validator joined too recently): 98 to the
    distribution module, 73.5 + 24.5 to the two eligible validators, 2 to the community pool -/
example :
    let p := allocateConsumerRewards (100 * one) (one / 50)
      [{ v := 1, key := 1, power := 3, join := 2 }, { v := 2, key := 2, power := 1, join := 2 }, { v := 3, key := 3, power := 5, join := 9 }] 10 4
    p.toDistr = 98 ∧ p.toCP = 2 ∧ p.left = 0 ∧ p.pays.map (·.v) = [1, 2] ∧
    p.pays.map (·.amount) = [73 * one + one / 2, 24 * one + one / 2] := by decide

/-- nobody eligible: everything goes to the community pool, the fraction stays credited -/
example :
    let p := allocateConsumerRewards (7 * one + 5) (one / 50) [{ v := 3, key := 3, power := 5, join := 9 }] 10 4
    p.toDistr = 0 ∧ p.toCP = 7 ∧ p.left = 5 ∧ p.pays = [] := by decide

example : WF [(("0", "stake"), 5), (("1", "stake"), 7), (("0", "mote"), 1)] := by
  simp [WF]

/-- consumer: 1000 fee tokens at fraction 0.75 → 750 stay, 250 are buffered and sent when due -/
example :
    let r := endBlockRD { fc := [("stake", 1000)], toSend := [("stake", 3), ("mote", 9)], ltbh := 4 } 9 (3 * one / 4) 5 ["stake"] true 0
    r.2 = [("stake", 253)] ∧ getBal r.1.redis "stake" = 750 ∧ getBal r.1.toSend "mote" = 9 ∧ r.1.ltbh = 9 := by decide

end ICS.Props.C16
