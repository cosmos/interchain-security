/-
  C03 — Top-N consumers are validated by every validator in the top N% of power.
-/
import ICS.Lemmas.Sort
import ICS.Lemmas.TopN
import ICS.Lemmas.ProvMsg
namespace ICS.Props.C03
open ICS ICS.TopN

/-- the scan returns the LAST power of the SHORTEST prefix of the list whose cumulative share
    reaches the threshold: there is a split `pre ++ p :: post` with the prefix through `p` reaching
    it and no shorter prefix doing so -/
theorem scan_spec (total thr : Nat) (l : List Nat) (acc p : Nat) (h : scan total thr l acc = some p) :
    ∃ pre post, l = pre ++ p :: post ∧
      decQuo (acc + pre.sum + p) total ≥ thr ∧
      ∀ pre' q rest, pre = pre' ++ q :: rest → decQuo (acc + pre'.sum + q) total < thr := by
  induction l generalizing acc with
  | nil => cases h
  | cons a t ih =>
    -- `scan total thr (a :: t) acc` is `if decQuo (acc + a) total ≥ thr then some a else …` by definition
    by_cases hge : decQuo (acc + a) total ≥ thr
    · cases (if_pos hge).symm.trans h
      exact ⟨[], t, rfl, hge, fun pre' q rest hp => by cases pre' <;> cases hp⟩
    · obtain ⟨pre, post, rfl, hr, hmin⟩ := ih (acc + a) ((if_neg hge).symm.trans h)
      refine ⟨a :: pre, post, rfl, ?_, ?_⟩
      · rwa [List.sum_cons, ← Nat.add_assoc]
      · intro pre' q rest hp
        cases pre' with
        | nil =>
          cases hp
          exact Nat.lt_of_not_le hge
        | cons b pre'' =>
          cases hp
          have := hmin pre'' q rest rfl
          rwa [List.sum_cons, ← Nat.add_assoc]

/-- the returned threshold is one of the powers (so "power ≥ m" is met by at least one validator) -/
theorem threshold_is_member (powers : List Nat) (topN m : Nat) (h : computeMinPowerInTopN powers topN = some m) :
    m ∈ powers := by
  simp only [computeMinPowerInTopN, Option.ite_none_left_eq_some] at h
  obtain ⟨pre, post, hl, -, -⟩ := scan_spec _ _ _ _ _ h.2.2
  exact (isort_perm _ _).mem_iff.mp (hl ▸ List.mem_append_right pre List.mem_cons_self)

/-- Top-N values outside (0, 100] are rejected -/
theorem invalid_topn_rejected (powers : List Nat) (topN : Nat) (h : topN = 0 ∨ topN > 100) :
    computeMinPowerInTopN powers topN = none := by
  have : (topN == 0 || decide (topN > 100)) = true := by
    rw [Bool.or_eq_true, beq_iff_eq, decide_eq_true_eq]
    exact h
  exact if_pos this

/-- the scan runs over the powers in descending order -/
theorem scan_order_desc (powers : List Nat) : (sortDescNat powers).Pairwise (fun a b => a ≥ b) :=
  isort_desc id powers

/-- a validator at or above the stored threshold cannot opt out of a Top-N consumer -/
theorem optout_blocked_at_threshold (s : Provider.State) (c : Provider.CId) (v : Nat) (mp : Nat)
    (htop : ((s.get c).ps.getD {}).topN > 0) (hmp : (s.get c).minpow = some mp)
    (hpow : Epoch.lastPower s.stk v ≥ mp) : Provider.msgOptOut s c v v = none :=
  Option.eq_none_iff_forall_ne_some.mpr fun _ h => by
    obtain ⟨-, -, -, -, hbelow, -⟩ := (Provider.msgOptOut_eq_some ..).mp h
    obtain ⟨mp', e, hlt⟩ := hbelow htop
    cases hmp.symm.trans e
    exact Nat.not_le.mpr hlt hpow

/-- … while a validator strictly below it may -/
theorem optout_allowed_below (s : Provider.State) (c : Provider.CId) (v : Nat) (mp : Nat)
    (hc : Provider.validConsumerId c = true) (hv : Provider.valExists s v = true)
    (hl : (s.get c).phase = .launched) (hmp : (s.get c).minpow = some mp)
    (hpow : Epoch.lastPower s.stk v < mp) : (Provider.msgOptOut s c v v).isSome = true :=
  Option.isSome_iff_exists.mpr
    ⟨_, (Provider.msgOptOut_eq_some ..).mpr ⟨hc, rfl, hv, hl, fun _ => ⟨mp, hmp, hpow⟩, rfl⟩⟩

/-- every active validator at or above the threshold is opted in after the epoch computation -/
theorem topn_auto_optin (inp : Epoch.Input) (mp v : Nat) (hv : v ∈ Epoch.active inp)
    (hp : Epoch.lastPower inp.stk v ≥ mp) : v ∈ Epoch.optinAfter inp mp :=
  (Epoch.mem_optinAfter inp mp v).mpr (Or.inr ⟨hv, hp⟩)

/-- validators that opted in themselves stay opted in -/
theorem optin_kept (inp : Epoch.Input) (mp v : Nat) (hv : v ∈ inp.optin) : v ∈ Epoch.optinAfter inp mp :=
  (Epoch.mem_optinAfter inp mp v).mpr (Or.inl hv)

/-! ### non-vacuity -/
example : computeMinPowerInTopN [40, 30, 20, 6, 4] 75 = some 20 := by decide
example : computeMinPowerInTopN [40, 30, 20] 75 = some 30 := by decide
example : computeMinPowerInTopN [5, 5, 5, 5] 50 = some 5 := by decide
example : computeMinPowerInTopN [1, 1, 1] 100 = some 1 := by decide

/-! ### bridge: the LegacyDec comparison IS the exact rational comparison (total < 2·10^16) -/

/-- `LegacyNewDec(a).Quo(LegacyNewDec(b)) ≥ LegacyNewDec(N).QuoInt64(100)` holds exactly when
    `100·a ≥ N·b`, for every total below 2·10^16 (the rounding of the quotient can change the
    comparison only for larger totals; the property's "at least N %" is the exact comparison).
    `hn` is not needed. -/
theorem decQuo_ge_threshold_iff (a b n : Nat) (hb : 0 < b) (hlt : b < 20000000000000000) (hn : 1 ≤ n) :
    decQuo a b ≥ threshold n ↔ 100 * a ≥ n * b :=
  decQuo_ge_threshold a n hb hlt

/-- the scan with the exact comparison -/
def scanExact (total n : Nat) : List Nat → Nat → Option Nat
  | [], _ => none
  | p :: ps, acc => if 100 * (acc + p) ≥ n * total then some p else scanExact total n ps (acc + p)

/-- for totals below 2·10^16 the implementation's scan is the exact scan -/
theorem scan_eq_exact (total n : Nat) (ht : 0 < total) (hlt : total < 20000000000000000) (hn : 1 ≤ n)
    (l : List Nat) (acc : Nat) : scan total (threshold n) l acc = scanExact total n l acc := by
  induction l generalizing acc with
  | nil => rfl
  | cons p ps ih =>
    -- both scans are an `if` on the head by definition
    exact ite_congr (propext (decQuo_ge_threshold_iff _ _ _ ht hlt hn)) (fun _ => rfl) fun _ => ih _

end ICS.Props.C03
