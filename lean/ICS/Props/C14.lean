/-
  C14 — Only owners, governance and the validator itself can change what is theirs.
-/
import ICS.Lemmas.ProvMsg
import ICS.Props.C10
namespace ICS.Props.C14
open ICS ICS.Provider ICS.Epoch

/-- the message's sender must be the consumer's current owner (and the consumer active) -/
theorem update_requires_owner (s : State) (a : UpdateArgs) (r : State × Time) (h : updateCore s a = some r) :
    a.sender = (s.get a.c).owner ∧ isActive (s.get a.c).phase = true := by
  have hg := (updateCore_some h).1
  unfold updateGuard at hg
  simp only [Bool.and_eq_true, beq_iff_eq] at hg
  exact ⟨hg.2, hg.1.2⟩

theorem update_requires_owner' (s s' : State) (a : UpdateArgs) (h : updateConsumer s a = some s') :
    a.sender = (s.get a.c).owner := by
  obtain ⟨s1, prev, hc, -, -⟩ := updateConsumer_some h
  exact (update_requires_owner s a _ hc).1

/-- **Top-N needs governance ownership.**  After any accepted MsgUpdateConsumer — including one
    that changes owner and Top-N together — a consumer with a non-zero Top-N is owned by the
    governance authority. -/
theorem update_topn_owner (s s' : State) (a : UpdateArgs) (h : updateConsumer s a = some s') :
    ((s'.get a.c).ps.getD {}).topN ≠ 0 → (s'.get a.c).owner = s'.authority := by
  obtain ⟨s1, prev, -, hchk, hi⟩ := updateConsumer_some h
  obtain ⟨ha, p, hp⟩ := initializeAndPrepare_get hi
  rw [hp, ha]
  exact hchk

/-- a validated Top-N value is 0 or within 50..100 -/
theorem validPS_range (p : PS) (h : validPS p = true) : p.topN = 0 ∨ (50 ≤ p.topN ∧ p.topN ≤ 100) := by
  unfold validPS at h
  simp only [Bool.and_eq_true, Bool.or_eq_true, beq_iff_eq, decide_eq_true_eq] at h
  rcases h.1 with h0 | h1
  · left; exact h0
  · right; exact h1

/-- permissionless creation yields opt-in consumers only -/
theorem create_is_optin (a : CreateArgs) (p : PSArgs) (h : createOK a = true) (hp : a.ps = some p) :
    p.ps.topN = 0 := by
  unfold createOK at h
  simp only [hp, Bool.and_eq_true, beq_iff_eq] at h
  exact h.1.2.1

theorem createRecord_topn (c : CId) (a : CreateArgs) (h : createOK a = true) :
    ((createRecord c a).ps.getD {}).topN = 0 := by
  unfold createRecord
  cases hp : a.ps with
  | none => simp
  | some p => simp [create_is_optin a p h hp]

/-- opt-in, opt-out and key assignment are accepted only from the operator of the validator they
    name (ValidateBasic, run by the message router) -/
theorem optin_signed_by_validator (s s' : State) (c : CId) (v signer : Nat) (k : Option Nat)
    (h : msgOptIn s c v signer k = some s') : signer = v := by
  unfold msgOptIn at h
  exact (validateBasic_some h).2.1

theorem optout_signed_by_validator (s s' : State) (c : CId) (v signer : Nat)
    (h : msgOptOut s c v signer = some s') : signer = v := by
  unfold msgOptOut at h
  exact (validateBasic_some h).2.1

theorem assign_signed_by_validator (s s' : State) (c : CId) (v signer key : Nat)
    (h : msgAssignKey s c v signer key = some s') : signer = v := by
  unfold msgAssignKey at h
  exact (validateBasic_some h).2.1

/-- MsgRemoveConsumer: owner only -/
theorem remove_requires_owner (s s' : State) (sender : String) (c : CId)
    (h : removeConsumer s sender c = some s') : sender = (s.get c).owner :=
  (C10.remove_requires_owner_launched s s' sender c h).1

/-! ### non-vacuity: one message that makes gov the owner and sets Top-N is rejected (the check
    uses the OLD owner), two messages succeed -/
example :
    let s : State := { consumers := [{ id := "0", phase := .registered, owner := "u1", chain := "c-1", chainRev := 1,
                                       hasInit := true, ps := some {} }],
                       nextId := 1, stk := [{ id := 0, tokens := 5, status := 3, jailed := false, lastPower := 5 }],
                       bonded := [0] }
    let both : UpdateArgs := { sender := "u1", c := "0", newOwner := some "gov", newChain := "", newChainRev := 0,
                               init := none, ps := some { ps := { topN := 60 }, allow := [], deny := [], prio := [] }, infr := none }
    let first : UpdateArgs := { both with ps := none }
    let second : UpdateArgs := { both with sender := "gov", newOwner := none }
    (updateConsumer s both).isNone ∧
    ((updateConsumer s first).bind fun s1 => updateConsumer s1 second).isSome := by decide

end ICS.Props.C14
