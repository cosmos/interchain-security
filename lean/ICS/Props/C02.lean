/-
  C02 — Only eligible bonded provider validators secure a consumer, at provider power.
-/
import ICS.Lemmas.NextValidators
namespace ICS.Props.C02
open ICS ICS.Epoch ICS.Shaping

/-- every candidate is a bonded validator returned by staking -/
theorem candidates_subset (inp : Input) : ∀ v ∈ candidates inp, v ∈ inp.bonded := by
  intro v hv
  unfold candidates at hv
  simp only at hv
  split at hv
  · exact (isort_perm _ _).mem_iff.mp hv
  · exact (isort_perm _ _).mem_iff.mp (List.mem_of_mem_take hv)

/-- eligibility is exactly the documented filter -/
theorem eligible_iff (inp : Input) (optin : List Nat) (minP v : Nat) :
    v ∈ eligible inp optin minP ↔
      v ∈ candidates inp ∧ canValidate inp optin minP v = true ∧ fulfillsMinStake inp v = true := by
  unfold eligible
  simp [List.mem_filter, Bool.and_eq_true]

/-- **Active set.**  If staking returns the bonded validators in non-increasing voting power (its
    power-index order, A-STK-SORT), then for a consumer that does not allow inactive validators the
    candidates are exactly the provider's own active set: the first M of that list.
    (This is the statement that was false before fix 238ecde, where the list was re-sorted by tokens.) -/
theorem candidates_are_active_set (inp : Input) (hin : inp.ps.inactive = false)
    (hsorted : inp.bonded.Pairwise (fun a b => lastPower inp.stk a ≥ lastPower inp.stk b)) :
    candidates inp = inp.bonded.take inp.m := by
  unfold candidates
  simp only [hin, Bool.false_eq_true, if_false]
  rw [isort_of_pairwise]
  exact hsorted.imp decide_eq_true

/-- with inactive validators allowed, all bonded validators are candidates -/
theorem candidates_all_when_inactive_allowed (inp : Input) (hin : inp.ps.inactive = true) :
    (candidates inp).Perm inp.bonded := by
  unfold candidates
  simp only [hin, if_true]
  exact isort_perm _ _

theorem createCV_fields (inp : Input) (v : Nat) :
    (createCV inp v).v = v ∧ (createCV inp v).power = lastPower inp.stk v ∧
    (createCV inp v).key = (match inp.ka.find? (·.1 == v) with | some p => p.2 | none => v) :=
  ⟨rfl, rfl, rfl⟩

/-- **Soundness, key.**  Every member of the computed set is an eligible validator — a bonded
    candidate that is opted in (or required by Top-N), permitted by allow/deny list and minimum
    stake — and carries the key it assigned for this consumer or else its provider key. -/
theorem next_sound (inp : Input) (optin : List Nat) (minP : Nat) :
    ∀ c ∈ computeNextValidators inp optin minP,
      c.v ∈ eligible inp optin minP ∧
      c.key = (match inp.ka.find? (·.1 == c.v) with | some p => p.2 | none => c.v) := by
  intro c hc
  obtain ⟨s, -, hel, rfl⟩ := mem_computeNextValidators.mp hc
  exact ⟨hel, rfl⟩

/-- **Power.**  Without a power cap the consumer power of every member equals its provider power. -/
theorem next_power_uncapped (inp : Input) (optin : List Nat) (minP : Nat) (hcap : inp.ps.powCap = 0) :
    ∀ c ∈ computeNextValidators inp optin minP, c.power = lastPower inp.stk c.v := by
  intro c hc
  obtain ⟨s, hs, -, rfl⟩ := mem_computeNextValidators.mp hc
  exact shaped_uncapped hcap s hs

/-- **Completeness.**  When no validator-set cap applies (Top-N consumer, or cap 0) every eligible
    validator is in the computed set. -/
theorem next_complete (inp : Input) (optin : List Nat) (minP : Nat)
    (hnocap : inp.ps.setCap = 0 ∨ inp.ps.topN > 0) :
    ∀ v ∈ eligible inp optin minP, ∃ c ∈ computeNextValidators inp optin minP, c.v = v := by
  intro v hv
  obtain ⟨s, hs, rfl⟩ := shaped_complete hnocap v hv
  exact ⟨_, mem_computeNextValidators.mpr ⟨s, hs, hv, rfl⟩, rfl⟩

/-! ### non-vacuity: the F1 situation — equal power, different tokens, M = 1 -/
example :
    let inp : Input := {
      stk := [{ id := 0, tokens := 5100000, status := 3, jailed := false, lastPower := 5 },
              { id := 1, tokens := 5900000, status := 3, jailed := false, lastPower := 5 }],
      bonded := [0, 1], m := 1, height := 7, ps := {}, allow := [], deny := [], prio := [],
      optin := [0, 1], ka := [(1, 40)], current := [] }
    candidates inp = [0] ∧
    computeNextValidators inp inp.optin 0 = [{ v := 0, key := 0, power := 5, join := 7 }] := by decide

end ICS.Props.C02
