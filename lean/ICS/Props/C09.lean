/-
  C09 — Jail throttling bounds consumer-initiated jailing; bounced reports are retried.
-/
import ICS.Model.Consumer
import ICS.Lemmas.Slash
namespace ICS.Props.C09
open ICS ICS.Provider

/-- after every BeginBlock the meter is at most the current allowance -/
theorem meter_le_allowance (t : Throttle) (now : Time) (a : Nat) :
    (checkReplenish t now a).meter ≤ a := by
  rw [checkReplenish_meter]
  exact Int.min_le_left _ _

/-- it is replenished by at most one allowance per BeginBlock … -/
theorem replenish_at_most_allowance (t : Throttle) (now : Time) (a : Nat) :
    (checkReplenish t now a).meter ≤ t.meter + a := by
  rw [checkReplenish_meter]
  refine Int.le_trans (Int.min_le_right _ _) ?_
  split
  · exact Int.le_refl _
  · exact Int.le_add_of_nonneg_right (Int.natCast_nonneg a)

/-- … and not at all before the replenish candidate time -/
theorem no_replenish_before_candidate (t : Throttle) (now : Time) (a : Nat) (h : now < t.candidate) :
    (checkReplenish t now a).meter ≤ t.meter := by
  rw [checkReplenish_meter, if_neg (Int.not_le.mpr h)]
  exact Int.min_le_right _ _

/-- a replenishment moves the candidate one full period ahead: at most one allowance per period -/
theorem candidate_after_replenish (t : Throttle) (now : Time) (a : Nat) (h : now ≥ t.candidate) :
    (checkReplenish t now a).candidate = now + t.period := by
  unfold checkReplenish clampStep
  split
  · dsimp only
    rw [replenishStep_period]
  · unfold replenishStep
    rw [if_pos h]

/-- the allowance is at least 1 -/
theorem allowance_pos (t : Throttle) (total : Nat) : 1 ≤ allowance t total := by
  unfold allowance
  dsimp only
  split
  · exact Nat.le_refl 1
  · rename_i h
    exact Nat.pos_of_ne_zero (mt beq_iff_eq.mpr h)

/-- a packet that reaches the meter check while the meter is negative is bounced and changes nothing -/
theorem bounced_when_negative (s : State) (t : Throttle) (vsc2h : List (Nat × Nat)) (chan : String) (p : SlashPkt)
    (c : CId) (hc : s.chan2c.find? (·.1 == chan) = some (chan, c))
    (hpow : p.power ≠ 0) (hdt : p.infraction = 2)
    (hid : (mappedInfractionHeight (s.get c) vsc2h p.vscId).isNone = false)
    (hl : (s.get c).phase = .launched)
    (hm : (s.get c).valset.any (·.v == providerOf (s.get c) p.key) = true)
    (hneg : t.meter < 0) :
    onRecvSlash s t vsc2h chan p = (s, t, [], .bounced) := by
  simp [onRecvSlash, hc, hpow, hdt, hid, hl, hm, hneg]

/-- a handled packet deducts the validator's voting power from the meter BEFORE handling -/
theorem handled_deducts (s : State) (t : Throttle) (vsc2h : List (Nat × Nat)) (chan : String) (p : SlashPkt)
    (c : CId) (hc : s.chan2c.find? (·.1 == chan) = some (chan, c))
    (hpow : p.power ≠ 0) (hdt : p.infraction = 2)
    (hid : (mappedInfractionHeight (s.get c) vsc2h p.vscId).isNone = false)
    (hl : (s.get c).phase = .launched)
    (hm : (s.get c).valset.any (·.v == providerOf (s.get c) p.key) = true)
    (hpos : 0 ≤ t.meter) :
    (onRecvSlash s t vsc2h chan p).2.1.meter = t.meter - effectivePower s (providerOf (s.get c) p.key) ∧
    (onRecvSlash s t vsc2h chan p).2.2.2 = .handled := by
  simp [onRecvSlash, hc, hpow, hdt, hid, hl, hm, Int.not_lt.mpr hpos]

/-- staking effects (slash, jail) occur only on the handled path, hence only with a non-negative meter -/
theorem effects_only_nonneg (s : State) (t : Throttle) (vsc2h : List (Nat × Nat)) (chan : String) (p : SlashPkt)
    (h : (onRecvSlash s t vsc2h chan p).2.2.1 ≠ []) : 0 ≤ t.meter :=
  (onRecvSlash_quiet_or_handled s t vsc2h chan p).elim (fun hq => absurd hq.1 h) And.right

/-! ### the window bound: an abstract trace of meter events -/

inductive Ev
  | replenish (a : Nat)      -- BeginBlock with a replenishment of allowance `a`
  | clamp (a : Nat)          -- BeginBlock that only clamps to the allowance `a`
  | jail (p : Nat)           -- a handled slash packet for a validator of power `p` (needs meter ≥ 0)

/-- meter after an event; `none` = the event is not enabled (a packet is bounced when meter < 0) -/
def stepEv (m : Int) : Ev → Option Int
  | .replenish a => some (if m + a > a then a else m + a)
  | .clamp a => some (if m ≥ a then a else m)
  | .jail p => if m < 0 then none else some (m - p)

/-- run a trace: (final meter, total jailed power, total allowance accrued, largest jailed power) -/
def run : Int → List Ev → Option (Int × Nat × Nat × Nat)
  | m, [] => some (m, 0, 0, 0)
  | m, e :: es =>
    match stepEv m e with
    | none => none
    | some m' =>
      match run m' es with
      | none => none
      | some (mf, s, a, pm) =>
        match e with
        | .replenish al => some (mf, s, a + al, pm)
        | .clamp _ => some (mf, s, a, pm)
        | .jail p => some (mf, s + p, a, max pm p)

/-- jailed power + final meter ≤ start meter + accrued allowances, and from any start the final
    meter is at least min(start, −largest jailed power) (written as a disjunction: `omega` is
    dearer on `min`).  Along a run the potential
    `jailed power + meter − accrued allowance` does not grow, and the floor does not sink: a
    replenishment or clamp leaves a negative meter no lower, and a jail starts from a non-negative
    meter. -/
theorem run_bounds {m mf : Int} {es : List Ev} {s a pm : Nat} (h : run m es = some (mf, s, a, pm)) :
    (s : Int) + mf ≤ m + a ∧ (m ≤ mf ∨ -(pm : Int) ≤ mf) := by
  induction es generalizing m mf s a pm with
  | nil =>
    cases h
    omega
  | cons e es ih =>
    unfold run at h
    split at h
    · cases h
    · rename_i m' hs
      split at h
      · cases h
      · rename_i mf' s' a' pm' hr
        have := ih hr
        cases e with
        | replenish al | clamp al =>
          cases h
          cases hs
          omega
        | jail p =>
          cases h
          obtain ⟨hpos, hm'⟩ := Option.ite_none_left_eq_some.mp hs
          cases hm'
          omega

/-- **Window bound.**  Over any trace segment that starts with a non-negative meter, the voting
    power jailed on behalf of consumers is at most the start meter plus the allowances accrued in
    the segment plus one (the largest) jailed validator's power. -/
theorem window_bound (m : Int) (es : List Ev) (mf : Int) (s a pm : Nat) (h : run m es = some (mf, s, a, pm))
    (hm : 0 ≤ m) : (s : Int) ≤ m + a + pm := by
  have := run_bounds h
  omega

open ICS.Consumer in
/-- while the slash packet is in flight (waiting for its acknowledgement) sending is not permitted -/
theorem no_send_while_waiting (s : Consumer.State) (r : Consumer.SlashRecord) (h : s.record = some r) (hw : r.waiting = true) :
    Consumer.sendingPermitted s = false := by
  simp [Consumer.sendingPermitted, h, hw]

open ICS.Consumer in
/-- after a bounce the retry is not sent before the retry delay has elapsed -/
theorem retry_not_before_delay (s : Consumer.State) (r : Consumer.SlashRecord) (h : s.record = some r)
    (hnow : s.now ≤ r.sendTime + s.retryDelay) : Consumer.sendingPermitted s = false := by
  unfold Consumer.sendingPermitted
  simp only [h]
  split
  · rfl
  · exact decide_eq_false (Int.not_lt.mpr hnow)

open ICS.Consumer in
/-- a bounce keeps the slash packet at the head of the queue (not dropped, not duplicated) and only
    clears the waiting flag; a handled / v1 acknowledgement removes exactly the head -/
theorem ack_queue_effect (s s' : Consumer.State) (k : Consumer.AckKind) (h : Consumer.onAck s true k = some s') :
    (k = .bounced → s'.queue = s.queue ∧ ∃ r, s.record = some r ∧ s'.record = some { r with waiting := false }) ∧
    ((k = .handled ∨ k = .v1) → s'.queue = s.queue.drop 1 ∧ s'.record = none) := by
  constructor
  · rintro rfl
    unfold Consumer.onAck at h
    cases hr : s.record with
    | none =>
      rw [hr] at h
      cases h
    | some r =>
      rw [hr] at h
      cases h
      exact ⟨rfl, r, rfl, rfl⟩
  · rintro (rfl | rfl)
    all_goals
      cases h
      exact ⟨rfl, rfl⟩

open ICS.Consumer in
/-- with nothing permitted, EndBlock sends nothing and leaves queue and record alone -/
theorem blocked_sends_nothing (s : Consumer.State) (h : Consumer.sendingPermitted s = false) (p : Consumer.CPacket)
    (q : List Consumer.CPacket) (hq : s.queue = p :: q) (hc : s.pchan.isSome) (ho : s.chanOpen = true) :
    Consumer.sendPackets s = (s, []) := by
  unfold Consumer.sendPackets
  cases hp : s.pchan with
  | none => simp [hp] at hc
  | some ch => simp [Consumer.sendPackets.go, ho, hq, h]

/-! ### non-vacuity -/
example : run 3 [.jail 5, .replenish 4, .jail 2, .clamp 4] = some (0, 7, 4, 5) := by decide
example : run (-1) [.jail 5] = none := by decide

end ICS.Props.C09
