/-
  C15 — The provider's own consensus set is the top-M bonded validators.
-/
import ICS.Props.C01
import ICS.Model.Provider
namespace ICS.Props.C15
open ICS ICS.Provider ICS.Epoch ICS.ValSet

/-- the recorded set is the first min(M, n) bonded validators (in staking's power order) with their
    provider keys and current powers -/
theorem stored_is_top_m (s : State) (g : GlobalVS) :
    (providerValUpdates s g).1.lastProv =
      (s.bonded.take s.m).map fun v => { v := v, key := v, power := lastPower s.stk v, join := 0 } := rfl

theorem size_le_m (s : State) (g : GlobalVS) : (providerValUpdates s g).1.lastProv.length ≤ s.m := by
  rw [stored_is_top_m, List.length_map, List.length_take]
  exact Nat.min_le_left _ _

/-- each recorded validator is stored under its own id as key -/
theorem stored_keys (s : State) (g : GlobalVS) :
    (providerValUpdates s g).1.lastProv.map (·.key) = s.bonded.take s.m :=
  List.map_map.trans (List.map_id'' (fun _ => rfl) _)

/-- the newly recorded set again has distinct keys, so the argument of `engine_follows_stored`
    repeats every block -/
theorem stored_keys_nodup (s : State) (g : GlobalVS) (hb : s.bonded.Nodup) :
    ((providerValUpdates s g).1.lastProv.map (·.key)).Nodup := by
  rw [stored_keys]
  exact (List.take_sublist _ _).nodup hb

/-- the updates returned to the consensus engine are the diff to the previously recorded set … -/
theorem updates_are_diff (s : State) (g : GlobalVS) :
    (providerValUpdates s g).2 = diff (toVals g.lastProv) (toVals (providerValUpdates s g).1.lastProv) := rfl

theorem toVals_keys (l : List CVal) : (toVals l).map (·.key) = l.map (·.key) :=
  List.map_map

/-- … so an engine that held the previously recorded set holds exactly the newly recorded set after
    applying them: engine set and recorded set never diverge -/
theorem engine_follows_stored (s : State) (g : GlobalVS)
    (hold : (g.lastProv.map (·.key)).Nodup) (hb : s.bonded.Nodup) (k : Nat) :
    applyF (providerValUpdates s g).2 (lookup (toVals g.lastProv)) k
      = lookup (toVals (providerValUpdates s g).1.lastProv) k := by
  rw [updates_are_diff]
  apply C01.apply_diff
  · rw [toVals_keys]; exact hold
  · rw [toVals_keys]; exact stored_keys_nodup s g hb

/-! ### non-vacuity -/
example :
    let s : State := { stk := [{ id := 0, tokens := 9, status := 3, jailed := false, lastPower := 9 },
                               { id := 1, tokens := 5, status := 3, jailed := false, lastPower := 5 },
                               { id := 2, tokens := 3, status := 3, jailed := false, lastPower := 3 }],
                       bonded := [0, 1, 2], m := 2 }
    let g : GlobalVS := { lastProv := [{ v := 1, key := 1, power := 4, join := 0 }, { v := 2, key := 2, power := 3, join := 0 }] }
    (providerValUpdates s g).2 = [⟨1, 5⟩, ⟨2, 0⟩, ⟨0, 9⟩] := by decide

end ICS.Props.C15
