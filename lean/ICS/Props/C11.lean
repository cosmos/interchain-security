/-
  C11 — Stopped consumers get no updates and are removed after the unbonding period.
-/
import ICS.Props.C10
namespace ICS.Props.C11
open ICS ICS.Provider ICS.Spec.Prov

/-- every stop path ends in StopAndPrepareForConsumerRemoval, which marks the consumer stopped and
    schedules the removal one unbonding period later -/
theorem stop_schedules_removal (s : State) (c : CId) :
    ((stopConsumer s c).get c).phase = .stopped ∧
    ((stopConsumer s c).get c).removal = some (s.now + s.unbonding) ∧
    (stopConsumer s c).removeQ = tqAppend s.removeQ (s.now + s.unbonding) c :=
  ⟨(C10.stop_sets_stopped s c).1, (C10.stop_sets_stopped s c).2, rfl⟩

/-- stopping leaves key assignments, client binding, validator set and evidence state in place -/
theorem stop_keeps_state (s : State) (c : CId) :
    ((stopConsumer s c).get c).ka = (s.get c).ka ∧ ((stopConsumer s c).get c).byaddr = (s.get c).byaddr ∧
    ((stopConsumer s c).get c).client = (s.get c).client ∧ ((stopConsumer s c).get c).valset = (s.get c).valset ∧
    ((stopConsumer s c).get c).evmin = (s.get c).evmin ∧ ((stopConsumer s c).get c).infr = (s.get c).infr := by
  rw [stopConsumer_get, if_pos rfl]; exact ⟨rfl, rfl, rfl, rfl, rfl, rfl⟩

/-- a consumer that is not launched gets no validator-set computation and no queued packet -/
theorem queue_skips_unlaunched (s : State) (c : CId) (h : (s.get c).phase ≠ .launched) :
    queueOne s c = some s := by
  unfold queueOne
  simp [h]

/-- … and nothing is sent for it -/
theorem send_skips_unlaunched (acc : State × List (CId × Packet)) (c : CId)
    (h : (acc.1.get c).phase ≠ .launched) : sendOne acc c = acc := by
  unfold sendOne
  simp [h]

/-- deletion leaves only descriptive records: every piece of protocol state is cleared -/
theorem delete_clears (s s' : State) (c : CId) (h : deleteConsumerChain s c = some s') :
    let x := s'.get c
    x.phase = .deleted ∧ x.client = none ∧ x.channel = none ∧ x.genesis = none ∧ x.valset = [] ∧
    x.optin = [] ∧ x.ka = [] ∧ x.byaddr = [] ∧ x.prune = [] ∧ x.pend = [] ∧ x.acks = [] ∧ x.allow = [] ∧
    x.deny = [] ∧ x.prio = [] ∧ x.commission = [] ∧ x.minpow = none ∧ x.qinfr = none ∧ x.removal = none ∧
    x.initH = none ∧
    -- descriptive records are retained
    x.owner = (s.get c).owner ∧ x.chain = (s.get c).chain ∧ x.ps = (s.get c).ps := by
  obtain ⟨_, a, b, q, rfl⟩ := deleteConsumerChain_some h
  intro x
  have hx : x = clearRecord (s.get c) := get_set_id s (clearRecord (s.get c)) c (get_id s c)
  rw [hx]
  exact ⟨rfl, rfl, rfl, rfl, rfl, rfl, rfl, rfl, rfl, rfl, rfl, rfl, rfl, rfl, rfl, rfl, rfl, rfl, rfl, rfl, rfl, rfl⟩

/-- removal is not early: BeginBlock only takes consumers whose removal time has been reached -/
theorem removal_not_early (s : State) :
    ∀ c ∈ (tqConsume s.removeQ s.now 200).1, ∃ e ∈ s.removeQ, e.1 ≤ s.now ∧ c ∈ e.2 :=
  Bucket.tqConsume_due _ _ _

/-- a repeated stop only adds a later queue entry; processing an entry of an already deleted
    consumer fails harmlessly (nothing changes) -/
theorem delete_twice_noop (s : State) (c : CId) (h : (s.get c).phase = .deleted) :
    deleteConsumerChain s c = none := by
  unfold deleteConsumerChain
  simp [h]

/-! ### non-vacuity -/
example :
    let s : State := { consumers := [{ id := "0", phase := .stopped, client := some "07-tendermint-0", ka := [(1, 40)],
                                       byaddr := [(40, 1)], removal := some 10 }],
                       client2c := [("07-tendermint-0", "0")], removeQ := [(10, ["0"])], now := 10 }
    ((beginBlockRemove s).get "0").phase = .deleted ∧ (beginBlockRemove s).client2c = [] ∧
    ((beginBlockRemove { s with now := 9 }).get "0").phase = .stopped := by decide

/-- the deletion loop never touches the removal schedule: after BeginBlock it is exactly what the
    consumption left -/
theorem beginBlockRemove_removeQ (s : State) :
    (beginBlockRemove s).removeQ = (tqConsume s.removeQ s.now 200).2 := by
  refine foldl_inv (fun t : State => t.removeQ = (tqConsume s.removeQ s.now 200).2) rfl fun t c _ hI => ?_
  cases hd : deleteConsumerChain t c with
  | none => exact hI
  | some t' =>
    obtain ⟨_, a, b, q, rfl⟩ := deleteConsumerChain_some hd
    exact (set_removeQ t _).trans hI

/-- per consumer: removals attempted in this block plus removals still scheduled are the removals
    that were scheduled — a stopped consumer is neither forgotten nor removed twice -/
theorem removal_counts_conserved (s : State) (c : CId) :
    ((tqConsume s.removeQ s.now 200).1.filter (· == c)).length + countIn (beginBlockRemove s).removeQ c
      = countIn s.removeQ c := by
  rw [beginBlockRemove_removeQ]
  exact Bucket.tqConsume_counts _ _ _ c

/-- stopping schedules the removal exactly once more for that consumer and for nobody else -/
theorem stop_schedules_once (s : State) (c c' : CId) (hs : sortedQ s.removeQ = true) :
    countIn (stopConsumer s c).removeQ c' = countIn s.removeQ c' + (if c' = c then 1 else 0) :=
  C10.countIn_tqAppend s.removeQ (s.now + s.unbonding) c c' hs

/-- a consumer whose removal is not due in this block (or that has none scheduled) is left exactly
    as it was by BeginBlock's removals: launched consumers are never deleted by somebody else's removal -/
theorem beginBlockRemove_others (s : State) (c : CId) (h : ¬ c ∈ (tqConsume s.removeQ s.now 200).1) :
    (beginBlockRemove s).get c = s.get c := by
  refine foldl_inv (fun t : State => t.get c = s.get c) rfl fun t d hd hI => ?_
  cases hdel : deleteConsumerChain t d with
  | none => exact hI
  | some t' =>
    obtain ⟨_, a, b, q, rfl⟩ := deleteConsumerChain_some hdel
    exact (get_set_other t (clearRecord (t.get d)) c fun e => h (e.trans (get_id t d) ▸ hd)).trans hI

end ICS.Props.C11
