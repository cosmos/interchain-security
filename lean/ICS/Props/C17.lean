/-
  C17 — Consumers, light clients and CCV channels are bound one to one.
-/
import ICS.Lemmas.ProvBlock
namespace ICS.Props.C17
open ICS ICS.Provider

/-- OnChanOpenTry is accepted only for an ordered channel on the provider port, from the consumer
    port, with the supported version, over exactly one connection whose tendermint client is the
    client recorded for a consumer that has no CCV channel yet -/
theorem try_accept_only_if (s : State) (ordered : Bool) (port cport ver : String) (hops : List String)
    (connOf : String → Option ConnInfo) (h : chanOpenTry s ordered port cport ver hops connOf = true) :
    ordered = true ∧ port = "provider" ∧ cport = "consumer" ∧ ver = "1" ∧
    ∃ hop ci c, hops = [hop] ∧ connOf hop = some ci ∧ ci.isTM = true ∧
      s.client2c.find? (·.1 == ci.client) = some (ci.client, c) ∧
      (s.get c).client = some ci.client ∧ (s.get c).channel = none := by
  unfold chanOpenTry at h
  simp only [Bool.and_eq_true, beq_iff_eq] at h
  obtain ⟨⟨⟨⟨h1, h2⟩, h3⟩, h4⟩, h5⟩ := h
  refine ⟨h1, h2, h3, h4, ?_⟩
  split at h5
  · rename_i hop
    split at h5
    · rename_i ci hci
      obtain ⟨htm, h6⟩ := Bool.and_eq_true_iff.mp h5
      split at h6
      · rename_i e he
        obtain ⟨h7, h8⟩ := Bool.and_eq_true_iff.mp h6
        exact ⟨hop, ci, e.2, rfl, hci, htm, find?_fst_eq_some he, eq_of_beq h7, Option.isNone_iff_eq_none.mp h8⟩
      · cases h6
    · cases h5
  · cases h5

/-- the provider never initiates or acknowledges a CCV handshake itself -/
theorem init_rejected : chanOpenInit = false := rfl

/-- OnChanOpenConfirm binds the channel to the consumer recorded for the underlying client, and
    only if that consumer has no channel yet: the provider completes at most one handshake per
    consumer -/
theorem confirm_binds_once (s s' : State) (ch : String) (hops : Option (List String))
    (connOf : String → Option ConnInfo) (h : chanOpenConfirm s ch hops connOf = some s') :
    ∃ hop ci c, hops = some [hop] ∧ connOf hop = some ci ∧
      s.client2c.find? (·.1 == ci.client) = some (ci.client, c) ∧
      (s.get c).channel = none ∧ (s'.get c).channel = some ch := by
  obtain ⟨hop, ci, c, hh, hci, -, he, hn, q, rfl⟩ := chanOpenConfirm_some h
  refine ⟨hop, ci, c, hh, hci, he, hn, ?_⟩
  have hget : ∀ (t : State) (q : List (String × CId)), State.get { t with chan2c := q } c = t.get c :=
    fun _ _ => rfl
  rw [hget, get_set, if_pos (get_id s c)]

/-- a consumer cannot be launched on a named connection whose client is already bound to another
    consumer (the repaired behaviour, fix 1c8c4db) -/
theorem launch_rejects_bound_client (s : State) (c other : CId) (x : Consumer) (cid chain : String) (h : Nat)
    (hconn : x.conn ≠ "") (hb : (cid, other) ∈ s.client2c) (hne : other ≠ c) :
    launchBind s c x { connClient := some (cid, chain, h) } = none := by
  have hany : s.client2c.any (fun e => e.1 == cid && e.2 != c) = true :=
    List.any_eq_true.mpr ⟨(cid, other), hb, Bool.and_eq_true_iff.mpr ⟨beq_iff_eq.mpr rfl, bne_iff_ne.mpr hne⟩⟩
  unfold launchBind
  rw [if_neg fun hz => hconn (eq_of_beq hz)]
  dsimp only
  rw [if_pos hany]
  exact ite_self none

/-- a launch is nothing but the validator-set part followed by the binding part -/
theorem launch_is_bind (s : State) (c : CId) (env : LaunchEnv) :
    launchConsumer s c env = none ∨ ∃ x, launchRecord s c env = some x ∧ launchConsumer s c env = launchBind s c x env := by
  unfold launchConsumer
  cases h : launchRecord s c env with
  | none => left; rfl
  | some x => right; exact ⟨x, rfl, rfl⟩

/-! ### non-vacuity -/
example :
    let s : State := { consumers := [{ id := "0", phase := .launched, client := some "07-tendermint-0" }],
                       client2c := [("07-tendermint-0", "0")] }
    let connOf := fun h => if h == "connection-0" then some ({ client := "07-tendermint-0", isTM := true } : ConnInfo) else none
    chanOpenTry s true "provider" "consumer" "1" ["connection-0"] connOf = true ∧
    chanOpenTry s false "provider" "consumer" "1" ["connection-0"] connOf = false ∧
    chanOpenTry s true "provider" "consumer" "1" ["connection-0", "connection-0"] connOf = false ∧
    ((chanOpenConfirm s "channel-1" (some ["connection-0"]) connOf).bind fun s1 =>
      chanOpenConfirm s1 "channel-2" (some ["connection-0"]) connOf).isNone := by decide

/-- a consumer opens CCV channels only over its recorded provider client: ordered, consumer → provider
    ports, supported version (blank = default), one hop, and only while no provider channel is set -/
theorem cons_init_accept_only_if (s : ICS.Consumer.State) (ordered : Bool) (port cport ver : String) (hops : List String)
    (connClient : String → Option String) (pc : Option String)
    (h : ICS.Consumer.chanOpenInit s ordered port cport ver hops connClient pc = true) :
    s.pchan = none ∧ ordered = true ∧ port = "consumer" ∧ cport = "provider" ∧
    (ver = "1" ∨ ICS.Consumer.blank ver = true) ∧
    ∃ hop cl, hops = [hop] ∧ connClient hop = some cl ∧ pc = some cl := by
  unfold ICS.Consumer.chanOpenInit at h
  simp only [Bool.and_eq_true, beq_iff_eq] at h
  obtain ⟨⟨⟨⟨⟨h1, h2⟩, h3⟩, h4⟩, h5⟩, h6⟩ := h
  refine ⟨Option.isNone_iff_eq_none.mp h1, h2, h3, h5, ?_, ?_⟩
  · by_cases hb : ICS.Consumer.blank ver = true
    · exact Or.inr hb
    · rw [if_neg hb] at h4; exact Or.inl h4
  · split at h6
    · rename_i hop
      split at h6
      · rename_i _ _ cl p hcl
        exact ⟨hop, cl, rfl, hcl, congrArg some (eq_of_beq h6).symm⟩
      · cases h6
    · cases h6

/-- … and never accepts a handshake started by the other side -/
theorem cons_try_confirm_rejected : ICS.Consumer.chanOpenTry = false ∧ ICS.Consumer.chanOpenConfirm = false := ⟨rfl, rfl⟩

/-- once a provider channel is established no further CCV channel is opened or acknowledged -/
theorem cons_no_second_channel (s : ICS.Consumer.State) (pc : String) (hs : s.pchan = some pc)
    (ordered : Bool) (port cport ver : String) (hops : List String) (cc : String → Option String) (p : Option String)
    (md : Option String) :
    ICS.Consumer.chanOpenInit s ordered port cport ver hops cc p = false ∧ ICS.Consumer.chanOpenAck s md = false := by
  -- both checks start with `s.pchan.isNone`
  unfold ICS.Consumer.chanOpenInit ICS.Consumer.chanOpenAck
  rw [hs]
  exact ⟨rfl, rfl⟩

/-- the provider channel is the one on which the first VSC packet arrives, and it never changes:
    a VSC packet on any other channel is not accepted -/
theorem cons_adopts_first_channel (rank : Nat → Nat) (s : ICS.Consumer.State) (chan : String) (id : Nat)
    (ups : List ValSet.Update) (acks : List Nat) (hid : id ≠ 0) :
    (s.pchan = none → (ICS.Consumer.onRecvVSC rank s chan id (some ups) acks).1.pchan = some chan) ∧
    (∀ pc, s.pchan = some pc → pc ≠ chan → (ICS.Consumer.onRecvVSC rank s chan id (some ups) acks).2 = ICS.Consumer.RecvResult.panic) ∧
    (∀ pc, s.pchan = some pc → (ICS.Consumer.onRecvVSC rank s chan id (some ups) acks).1.pchan = some pc) := by
  rw [ICS.Consumer.onRecvVSC_eq rank s chan id ups acks hid]
  have hforeign : ∀ pc, s.pchan = some pc → pc ≠ chan → ¬(s.pchan = some chan ∨ s.pchan = none) := by
    intro pc h hne hor
    rw [h] at hor
    exact hor.elim (fun h1 => hne (Option.some.inj h1)) (fun h1 => nomatch h1)
  refine ⟨fun h => ?_, fun pc h hne => ?_, fun pc h => ?_⟩
  · rw [if_pos (Or.inr h)]
  · rw [if_neg (hforeign pc h hne)]
  · by_cases hc : pc = chan
    · rw [if_pos (Or.inl (hc ▸ h)), hc]
    · rw [if_neg (hforeign pc h hc)]; exact h

end ICS.Props.C17
