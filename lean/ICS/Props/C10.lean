/-
  C10 — Consumer lifecycle follows the phase machine and the launch schedule.
-/
import ICS.Lemmas.Prov
import ICS.Lemmas.Bucket
namespace ICS.Props.C10
open ICS ICS.Provider ICS.Spec.Prov

/-- order of the phases along the only permitted direction -/
def rank : Phase → Nat
  | .unspecified => 0 | .registered => 1 | .initialized => 1 | .launched => 2 | .stopped => 3 | .deleted => 4

/-- every permitted edge is weakly forward: a launched consumer never returns to a pre-launch
    phase and a deleted one never becomes active again -/
theorem edge_forward (p q : Phase) (h : edgeOK p q = true) : rank p ≤ rank q := by
  revert h; cases p <;> cases q <;> decide

theorem no_return_from_launched (q : Phase) (h : edgeOK .launched q = true) :
    q = .launched ∨ q = .stopped := by
  revert h; cases q <;> decide

theorem deleted_is_final (q : Phase) (h : edgeOK .deleted q = true) : q = .deleted := by
  revert h; cases q <;> decide

/-- a history of phases of one consumer, each step a permitted edge -/
def pathOK : List Phase → Bool
  | p :: q :: rest => edgeOK p q && pathOK (q :: rest)
  | _ => true

/-- along any history the rank never decreases: once launched never pre-launch again, once
    deleted never anything else -/
theorem path_forward (p : Phase) (ps : List Phase) (h : pathOK (p :: ps) = true) :
    ∀ q ∈ ps, rank p ≤ rank q := by
  induction ps generalizing p with
  | nil => intro q hq; cases hq
  | cons a t ih =>
    simp only [pathOK, Bool.and_eq_true] at h
    intro q hq
    have h1 := edge_forward p a h.1
    rcases List.mem_cons.mp hq with rfl | hq
    · exact h1
    · exact Nat.le_trans h1 (ih a h.2 q hq)

/-- each consumer id is issued once, in increasing order -/
theorem create_issues_next_id (s : State) (a : CreateArgs) (s' : State) (c : CId)
    (h : createConsumer s a = some (s', c)) : c = toString s.nextId ∧ s'.nextId = s.nextId + 1 := by
  unfold createConsumer at h
  split at h
  · dsimp only at h
    split at h
    · cases h
    · rename_i s2 hs2
      obtain ⟨rfl, rfl⟩ := Prod.mk.inj (Option.some.inj h)
      refine ⟨rfl, ?_⟩
      rcases initializeAndPrepare_some hs2 with rfl | ⟨q, rfl⟩
      · rfl
      · exact set_nextId _ _
  · cases h

/-- a rejected create changes nothing (the function returns no state at all) and an accepted one
    passed every check -/
theorem create_checked (s : State) (a : CreateArgs) (r : State × CId) (h : createConsumer s a = some r) :
    createOK a = true := by
  unfold createConsumer at h
  split at h
  · assumption
  · cases h

/-- every way of stopping goes through StopAndPrepareForConsumerRemoval: the phase becomes stopped
    and the removal time is one unbonding period from now -/
theorem stop_sets_stopped (s : State) (c : CId) :
    ((stopConsumer s c).get c).phase = .stopped ∧
    ((stopConsumer s c).get c).removal = some (s.now + s.unbonding) := by
  rw [stopConsumer_get, if_pos rfl]; exact ⟨rfl, rfl⟩

theorem stop_leaves_others (s : State) (c c' : CId) (h : c' ≠ c) : (stopConsumer s c).get c' = s.get c' := by
  rw [stopConsumer_get, if_neg (Ne.symm h)]

/-- MsgRemoveConsumer succeeds only for the owner of a launched consumer and stops it -/
theorem remove_requires_owner_launched (s s' : State) (sender : String) (c : CId)
    (h : removeConsumer s sender c = some s') :
    sender = (s.get c).owner ∧ (s.get c).phase = .launched ∧ s' = stopConsumer s c := by
  simp only [removeConsumer, Option.ite_none_left_eq_some, Option.some.injEq, bne_iff_ne, ne_eq,
    Decidable.not_not] at h
  exact ⟨h.2.2.1, h.2.2.2.1, h.2.2.2.2.symm⟩

/-- DeleteConsumerChain only deletes stopped consumers, and marks them deleted -/
theorem delete_requires_stopped (s s' : State) (c : CId) (h : deleteConsumerChain s c = some s') :
    (s.get c).phase = .stopped ∧ (s'.get c).phase = .deleted := by
  obtain ⟨hp, a, b, q, rfl⟩ := deleteConsumerChain_some h
  refine ⟨hp, ?_⟩
  show ((s.set (clearRecord (s.get c))).get c).phase = _
  rw [get_set_id s (clearRecord (s.get c)) c (get_id s c)]; rfl

/-- BeginBlock consumes from the spawn queue: nothing lost or duplicated, at most 200 per block,
    only consumers whose spawn time has come -/
theorem launch_queue_conserved (s : State) :
    (tqConsume s.spawnQ s.now 200).1 ++ flatQ (tqConsume s.spawnQ s.now 200).2 = flatQ s.spawnQ :=
  Bucket.tqConsume_conserves _ _ _

theorem launch_at_most_200 (s : State) : (tqConsume s.spawnQ s.now 200).1.length ≤ 200 :=
  Bucket.tqConsume_limit _ _ _

theorem launch_only_due (s : State) :
    ∀ c ∈ (tqConsume s.spawnQ s.now 200).1, ∃ e ∈ s.spawnQ, e.1 ≤ s.now ∧ c ∈ e.2 :=
  Bucket.tqConsume_due _ _ _

/-! ### non-vacuity -/

example : tqConsume [(1, ["a", "b"]), (2, ["c"]), (9, ["d"])] 5 2 = (["a", "b"], [(2, ["c"]), (9, ["d"])]) := by decide
example : tqConsume [(1, ["a", "b", "x"]), (2, ["c"])] 5 2 = (["a", "b"], [(1, ["x"]), (2, ["c"])]) := by decide
example : edgeOK .initialized .launched = true ∧ edgeOK .launched .registered = false := by decide

/-! ### "scheduled exactly once": how the time-queue operations change the number of entries of a
    consumer (used for the launch, removal and infraction-parameter schedules alike) -/

/-- SCHEDULED ONCE MORE: appending `c` raises its count by exactly one and nobody else's -/
theorem countIn_tqAppend (q : TimeQueue) (t : Time) (c c' : CId) (hs : sortedQ q = true) :
    countIn (tqAppend q t c) c' = countIn q c' + (if c' = c then 1 else 0) := by
  rw [Bucket.countIn_eq, Bucket.countIn_eq, Bucket.tqAppend_eq]
  exact Bucket.count_ids_append (Bucket.nodup_times_of_sorted hs) t c c'

/-- SCHEDULED ONCE LESS: a successful removal lowers the count of `c` by exactly one, nobody else's -/
theorem countIn_tqRemove (q q' : TimeQueue) (t : Time) (c c' : CId) (hs : sortedQ q = true)
    (h : tqRemove q t c = some q') :
    countIn q' c' + (if c' = c then 1 else 0) = countIn q c' := by
  rw [Bucket.countIn_eq, Bucket.countIn_eq,
    (Bucket.tqRemove_some (Bucket.nodup_times_of_sorted hs) h).1.count_eq, List.count_cons]
  by_cases h : c' = c
  · rw [if_pos h, if_pos (beq_iff_eq.mpr h.symm)]
  · rw [if_neg h, if_neg fun e => h (beq_iff_eq.mp e).symm]

theorem sortedQ_tqRemove (q q' : TimeQueue) (t : Time) (c : CId) (hs : sortedQ q = true)
    (h : tqRemove q t c = some q') : sortedQ q' = true :=
  Bucket.sortedQ_of_sublist hs (Bucket.tqRemove_some (Bucket.nodup_times_of_sorted hs) h).2

/-- RE-SCHEDULING KEEPS "EXACTLY ONCE": moving `c` from time `t` to time `t'` (MsgUpdateConsumer with a
    new spawn time; a changed infraction-parameter request) leaves every consumer's number of
    schedule entries as it was -/
theorem reschedule_keeps_counts (q q1 : TimeQueue) (t t' : Time) (c c' : CId) (hs : sortedQ q = true)
    (h : tqRemove q t c = some q1) : countIn (tqAppend q1 t' c) c' = countIn q c' := by
  have h1 := countIn_tqRemove q q1 t c c' hs h
  have h2 := countIn_tqAppend q1 t' c c' (sortedQ_tqRemove q q1 t c hs h)
  omega

/-- (RE-)SCHEDULING A LAUNCH: when InitializeConsumer + PrepareConsumerForLaunch act (the consumer is
    pre-launch, has initialization parameters and a non-zero spawn time), the consumer ends up
    initialized and in the launch schedule exactly once — whether it was scheduled before (at
    `prevSpawn ≠ 0`) or not — and nobody else's entries change -/
theorem prepare_scheduled_once (s s' : State) (c : CId) (prevSpawn : Time)
    (hs : sortedQ s.spawnQ = true)
    (hcount : countIn s.spawnQ c = if prevSpawn ≠ 0 then 1 else 0)
    (hact : (!(isPrelaunched (s.get c).phase) || !(s.get c).hasInit || (s.get c).spawn == 0) = false)
    (h : initializeAndPrepare s c prevSpawn = some s') :
    countIn s'.spawnQ c = 1 ∧ (∀ c', c' ≠ c → countIn s'.spawnQ c' = countIn s.spawnQ c') ∧
    (s'.get c).phase = .initialized := by
  rw [initializeAndPrepare_eq, hact, if_neg Bool.false_ne_true] at h
  obtain ⟨q, hq, rfl⟩ := Option.map_eq_some_iff.mp h
  -- the queue the new entry is appended to: sorted, `c` not in it, everybody else as before
  have hq' : sortedQ q = true ∧ ∀ c', countIn q c' = if c' = c then 0 else countIn s.spawnQ c' := by
    by_cases hp : prevSpawn = 0
    · rw [if_neg (by rw [hp]; exact Bool.false_ne_true)] at hq
      rw [if_neg (not_not_intro hp)] at hcount
      cases hq
      refine ⟨hs, fun c' => ?_⟩
      split
      · rename_i hc; rw [hc]; exact hcount
      · rfl
    · rw [if_pos (bne_iff_ne.mpr hp)] at hq
      rw [if_pos hp] at hcount
      refine ⟨sortedQ_tqRemove _ _ _ _ hs hq, fun c' => ?_⟩
      have := countIn_tqRemove _ _ _ _ c' hs hq
      split
      · rename_i hc; subst hc; rw [if_pos rfl] at this; omega
      · rename_i hc; rwa [if_neg hc] at this
  refine ⟨?_, fun c' hc' => ?_, ?_⟩
  · show countIn (tqAppend q _ c) c = 1
    rw [countIn_tqAppend _ _ _ _ hq'.1, hq'.2, if_pos rfl, if_pos rfl]
  · show countIn (tqAppend q _ c) c' = _
    rw [countIn_tqAppend _ _ _ _ hq'.1, hq'.2, if_neg hc', if_neg hc']; rfl
  · exact congrArg Consumer.phase (get_set_id s { s.get c with phase := .initialized } c (get_id s c))

/-! ### BeginBlock's consumption of the launch queue, per consumer -/

/-- what stays queued after a block's launches is still ordered by time -/
theorem launch_keeps_sorted (s : State) (hs : sortedQ s.spawnQ = true) :
    sortedQ (tqConsume s.spawnQ s.now 200).2 = true :=
  Bucket.tqConsume_sorted _ _ hs

/-- per consumer: the entries handed to the launch loop plus the entries left in the queue are the
    entries there were — a consumer scheduled once is either launched (attempted) once or still
    scheduled once, never both and never neither -/
theorem launch_counts_conserved (s : State) (c : CId) :
    ((tqConsume s.spawnQ s.now 200).1.filter (· == c)).length + countIn (tqConsume s.spawnQ s.now 200).2 c
      = countIn s.spawnQ c :=
  Bucket.tqConsume_counts _ _ _ c

theorem launch_once_either (s : State) (c : CId) (h : countIn s.spawnQ c = 1) :
    (((tqConsume s.spawnQ s.now 200).1.filter (· == c)).length = 1 ∧ countIn (tqConsume s.spawnQ s.now 200).2 c = 0) ∨
    (((tqConsume s.spawnQ s.now 200).1.filter (· == c)).length = 0 ∧ countIn (tqConsume s.spawnQ s.now 200).2 c = 1) := by
  have := launch_counts_conserved s c
  omega

example : sortedQ (tqConsume [(1, ["a", "b", "x"]), (2, ["c"])] 5 2).2 = true ∧
    countIn (tqConsume [(1, ["a", "b", "x"]), (2, ["c"])] 5 2).2 "x" = 1 ∧
    ((tqConsume [(1, ["a", "b", "x"]), (2, ["c"])] 5 2).1.filter (· == "x")).length = 0 := by decide

/-- what an attempted launch leaves: launched, or back to registered with the spawn time cleared -/
def Attempted (x : Consumer) : Prop := x.phase = .launched ∨ (x.phase = .registered ∧ x.spawn = 0)

/-- one iteration of BeginBlockLaunchConsumers, successful launch or fall-back: it leaves the launch
    schedule alone, its consumer `Attempted` and every other consumer's record as it was -/
theorem launchStep_some {s s' : State} {c : CId} {env : LaunchEnv}
    (h : (match launchConsumer s c env with | some s' => some s' | none => launchFallback s c) = some s') :
    s'.spawnQ = s.spawnQ ∧ Attempted (s'.get c) ∧ ∀ c', c' ≠ c → s'.get c' = s.get c' := by
  -- both ways write one record of `c` and indexes that `get` and the schedule do not read
  have key : ∀ x l n, x.id = c → Attempted x → s' = { s.set x with client2c := l, nextClient := n } →
      s'.spawnQ = s.spawnQ ∧ Attempted (s'.get c) ∧ ∀ c', c' ≠ c → s'.get c' = s.get c' := by
    rintro x l n hid hx rfl
    refine ⟨set_spawnQ s x, ?_, fun c' hc' => get_set_other s x c' (hid ▸ hc')⟩
    show Attempted ((s.set x).get c)
    rwa [get_set_id s x c hid]
  have fallback : launchFallback s c = some s' → _ := fun h =>
    key { s.get c with spawn := 0, phase := .registered } s.client2c s.nextClient (get_id s c)
      (Or.inr ⟨rfl, rfl⟩) (by rw [launchFallback_some h, set_eq])
  unfold launchConsumer at h
  cases hr : launchRecord s c env with
  | none => rw [hr] at h; exact fallback h
  | some x =>
    rw [hr] at h
    dsimp only at h
    cases hb : launchBind s c x env with
    | none => rw [hb] at h; exact fallback h
    | some s1 =>
      rw [hb] at h
      obtain ⟨cl, ev, l, n, rfl⟩ := launchBind_some hb
      exact key { x with client := some cl, evmin := ev, phase := .launched } l n
        (show x.id = c from launchRecord_id hr) (Or.inl rfl) (Option.some.inj h).symm

/-- the launch loop itself never touches the schedule: after BeginBlock the launch queue is exactly
    what the consumption left, whatever succeeded or failed -/
theorem beginBlockLaunch_spawnQ (s s' : State) (envOf : CId → LaunchEnv)
    (h : beginBlockLaunch? s envOf = some s') :
    s'.spawnQ = (tqConsume s.spawnQ s.now 200).2 := by
  refine foldl_some_inv (fun _ => rfl) (fun t => t.spawnQ = (tqConsume s.spawnQ s.now 200).2) h rfl ?_
  intro t c _ t' ht hI
  exact (launchStep_some ht).1.trans hI

/-- over a whole BeginBlock: a consumer scheduled once is either attempted once in this block and no
    longer scheduled afterwards, or not attempted and still scheduled once; the queue stays ordered -/
theorem beginBlock_once (s s' : State) (envOf : CId → LaunchEnv) (c : CId)
    (h : beginBlockLaunch? s envOf = some s') (hs : sortedQ s.spawnQ = true) (h1 : countIn s.spawnQ c = 1) :
    sortedQ s'.spawnQ = true ∧
    ((((tqConsume s.spawnQ s.now 200).1.filter (· == c)).length = 1 ∧ countIn s'.spawnQ c = 0) ∨
     (((tqConsume s.spawnQ s.now 200).1.filter (· == c)).length = 0 ∧ countIn s'.spawnQ c = 1)) := by
  rw [beginBlockLaunch_spawnQ s s' envOf h]
  exact ⟨launch_keeps_sorted s hs, launch_once_either s c h1⟩

/-- … and a consumer that was not scheduled is neither attempted nor scheduled afterwards -/
theorem beginBlock_unscheduled (s s' : State) (envOf : CId → LaunchEnv) (c : CId)
    (h : beginBlockLaunch? s envOf = some s') (h0 : countIn s.spawnQ c = 0) :
    ((tqConsume s.spawnQ s.now 200).1.filter (· == c)).length = 0 ∧ countIn s'.spawnQ c = 0 := by
  rw [beginBlockLaunch_spawnQ s s' envOf h]
  have := launch_counts_conserved s c
  omega

/-- over a whole BeginBlock: every consumer taken from the launch queue ends launched or back in
    the registered phase with its spawn time cleared (never left initialized without a schedule
    entry); every other consumer's record is untouched -/
theorem beginBlock_attempted (s s' : State) (envOf : CId → LaunchEnv) (c : CId)
    (h : beginBlockLaunch? s envOf = some s') :
    (c ∈ (tqConsume s.spawnQ s.now 200).1 → Attempted (s'.get c)) ∧
    (¬ c ∈ (tqConsume s.spawnQ s.now 200).1 → s'.get c = s.get c) := by
  constructor
  · intro hc
    -- the iteration for `c` leaves it attempted; later ones attempt it again or skip it
    refine foldl_some_of_mem (fun _ => rfl) (fun t => Attempted (t.get c)) h hc
      (fun t t' ht => (launchStep_some ht).2.1) ?_
    intro t d t' ht hP
    by_cases hd : c = d
    · exact hd ▸ (launchStep_some ht).2.1
    · rwa [(launchStep_some ht).2.2 c hd]
  · intro hc
    refine foldl_some_inv (fun _ => rfl) (fun t => t.get c = s.get c) h rfl ?_
    intro t d hd t' ht hI
    rw [(launchStep_some ht).2.2 c fun e => hc (e ▸ hd), hI]

end ICS.Props.C10
