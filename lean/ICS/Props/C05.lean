/-
  C05 — A consumer consensus key never belongs to two validators.
  Key ids: a key id that is the id of an existing validator is that validator's provider key.
-/
import ICS.Lemmas.KeyAssign
import ICS.Lemmas.Prov
namespace ICS.Props.C05
open ICS ICS.Provider

/-- an assignment of ANOTHER validator's provider key is rejected -/
theorem reject_other_provider_key (s : State) (c : CId) (v key : Nat)
    (hex : valExists s key = true) (hne : key ≠ v) : assignKey s c v key = none := by
  unfold assignKey assignOK
  have : (key == v) = false := by simp [hne]
  simp [hex, this]

/-- a validator cannot take its own provider key unless it had assigned a different key before -/
theorem reject_default_key_unassigned (s : State) (c : CId) (v : Nat)
    (hex : valExists s v = true) (hno : assignedKey (s.get c) v = none) : assignKey s c v v = none := by
  unfold assignKey assignOK
  simp [hex, hno]

/-- a key that is any validator's current key on the consumer, or was replaced and is not pruned
    yet, is rejected -/
theorem reject_known_key (s : State) (c : CId) (v key w : Nat)
    (hk : resolveKey (s.get c) key = some w) : assignKey s c v key = none := by
  unfold assignKey assignOK
  simp [hk]

/-- assignments are possible on active consumers only -/
theorem reject_inactive (s : State) (c : CId) (v key : Nat)
    (h : isActive (s.get c).phase = false) : assignKey s c v key = none := by
  unfold assignKey assignOK
  simp [h]

/-- a rejected assignment changes nothing: there is no resulting state at all, and the message
    handler runs in a cache context that is dropped (A-ATOMIC) -/
theorem rejected_is_none (s : State) (c : CId) (v key : Nat) (h : assignOK s c v key = false) :
    assignKey s c v key = none := by
  unfold assignKey; simp [h]

/-- after a successful assignment the key resolves to the validator and is its current key -/
theorem assign_success (s s' : State) (c : CId) (v key : Nat) (h : assignKey s c v key = some s') :
    resolveKey (s'.get c) key = some v ∧ assignedKey (s'.get c) v = some key := by
  obtain ⟨_, rfl⟩ := assignKey_some h
  rw [get_set_id s _ c ((assignRecord_id _ _ _ _).trans (get_id s c)), resolveKey_assignRecord,
    assignedKey_assignRecord, if_pos rfl, if_pos rfl]
  exact ⟨rfl, rfl⟩

/-- other consumers are not touched by an assignment -/
theorem assign_other_consumers (s s' : State) (c c' : CId) (v key : Nat)
    (h : assignKey s c v key = some s') (hne : c' ≠ c) : s'.get c' = s.get c' := by
  obtain ⟨_, rfl⟩ := assignKey_some h
  exact get_set_other s _ c' fun e => hne (e.trans ((assignRecord_id _ _ _ _).trans (get_id s c)))

/-- a new validator cannot be created with a consensus key known on an active consumer -/
theorem create_blocked_iff (s : State) (key : Nat) :
    validatorKeyInUse s key = true ↔
      ∃ x ∈ s.consumers, isActive x.phase = true ∧ ∃ w, resolveKey x key = some w := by
  unfold validatorKeyInUse
  rw [List.any_eq_true]
  constructor
  · rintro ⟨x, hx, h⟩
    simp only [Bool.and_eq_true] at h
    refine ⟨x, hx, h.1, ?_⟩
    cases hr : resolveKey x key with
    | none => simp [hr] at h
    | some w => exact ⟨w, rfl⟩
  · rintro ⟨x, hx, ha, w, hw⟩
    exact ⟨x, hx, by simp [ha, hw]⟩

/-! ### non-vacuity -/
example :
    let s : State := { consumers := [{ id := "0", phase := .launched, ka := [(1, 40)], byaddr := [(40, 1)] }],
                       stk := [{ id := 1, tokens := 5, status := 3, jailed := false, lastPower := 5 },
                               { id := 2, tokens := 5, status := 3, jailed := false, lastPower := 5 }],
                       now := 100, unbonding := 50 }
    (assignKey s "0" 2 40).isNone ∧ (assignKey s "0" 2 1).isNone ∧ (assignKey s "0" 2 2).isNone ∧
    ((assignKey s "0" 1 41).map fun t => (t.get "0").prune) = some [(150, [40])] := by decide

/-- every validator's current key on the consumer resolves back to that validator -/
def KeyWF (x : Consumer) : Prop := ∀ v k, assignedKey x v = some k → resolveKey x k = some v

/-- an accepted assignment keeps the index consistent: the new key resolves to the validator, and
    every other validator's current key still resolves to its owner (the replaced key keeps
    resolving on a launched consumer, see C06) -/
theorem assign_preserves_keyWF (s : State) (c : CId) (v key : Nat) (t : Time)
    (hok : assignOK s c v key = true) (hwf : KeyWF (s.get c)) :
    KeyWF (assignRecord t v key (s.get c)) := by
  have hfree := assignOK_free hok
  intro w k hw
  rw [assignedKey_assignRecord] at hw
  rw [resolveKey_assignRecord]
  by_cases hwv : w = v
  · rw [if_pos hwv] at hw
    rw [if_pos (Option.some.inj hw).symm, hwv]
  · rw [if_neg hwv] at hw
    have hres := hwf w k hw
    -- `k` is not the new key (which did not resolve), nor the replaced key (which resolves to `v`)
    rw [if_neg (fun hk => by rw [hk, hfree] at hres; cases hres), if_neg, hres]
    exact fun h => hwv (Option.some.inj ((hwf v k h.2).symm.trans hres)).symm

theorem assignKey_preserves_keyWF (s s' : State) (c : CId) (v key : Nat)
    (h : assignKey s c v key = some s') (hwf : KeyWF (s.get c)) (hid : (s.get c).id = c) :
    KeyWF (s'.get c) := by
  obtain ⟨hok, rfl⟩ := assignKey_some h
  rw [get_set_id s _ c ((assignRecord_id _ _ _ _).trans hid)]
  exact assign_preserves_keyWF s c v key _ hok hwf

/-- keys waiting to be pruned are nobody's current key -/
def NotCurrent (x : Consumer) : Prop := ∀ e ∈ x.prune, ∀ k ∈ e.2, ∀ v, assignedKey x v ≠ some k

/-- keys waiting to be pruned still resolve (monitored on the implementation as part of
    `C05.key-inv`; its preservation by pruning is `prune_preserves_resolves` below, under "scheduled at most once") -/
def PruneResolves (x : Consumer) : Prop := ∀ e ∈ x.prune, ∀ k ∈ e.2, (resolveKey x k).isSome = true

/-- pruning forgets only keys that are nobody's current key: every current key keeps resolving -/
theorem prune_preserves_keyWF (x : Consumer) (now : Time) (hwf : KeyWF x) (hp : NotCurrent x) :
    KeyWF (pruneKeys x now) ∧ NotCurrent (pruneKeys x now) := by
  constructor
  · intro v k hv
    rw [resolveKey_pruneKeys, if_neg, hwf v k hv]
    intro hk
    obtain ⟨e, he, hke⟩ := List.mem_flatMap.mp hk
    exact hp e (List.mem_filter.mp he).1 k hke v hv
  · exact fun e he k hk v => hp e (List.mem_filter.mp he).1 k hk v

/-- an accepted assignment keeps "waiting keys are nobody's current key": the replaced key is
    scheduled and is no longer current; the new key was not waiting (it did not resolve at all) -/
theorem assign_preserves_notCurrent (s : State) (c : CId) (v key : Nat) (t : Time)
    (hok : assignOK s c v key = true) (hwf : KeyWF (s.get c)) (hp : NotCurrent (s.get c))
    (hr : PruneResolves (s.get c)) : NotCurrent (assignRecord t v key (s.get c)) := by
  have hfree := assignOK_free hok
  intro e he k hk w hw
  rw [assignedKey_assignRecord] at hw
  -- a waiting key resolved before the assignment: to whom, if it is the replaced key
  have hres : (resolveKey (s.get c) k).isSome = true ∧
      (∀ w, assignedKey (s.get c) w = some k → w = v ∧ (s.get c).phase = .launched) := by
    rcases mem_prune_assignRecord (List.mem_flatMap.mpr ⟨e, he, hk⟩) with h | ⟨hl, hold⟩
    · obtain ⟨e0, he0, hk0⟩ := List.mem_flatMap.mp h
      exact ⟨hr e0 he0 k hk0, fun w hw => absurd hw (hp e0 he0 k hk0 w)⟩
    · exact ⟨by rw [hwf v k hold]; rfl,
        fun w hw => ⟨Option.some.inj ((hwf w k hw).symm.trans (hwf v k hold)), hl⟩⟩
  by_cases hwv : w = v
  · rw [if_pos hwv] at hw
    rw [← Option.some.inj hw, hfree] at hres
    exact Bool.false_ne_true hres.1
  · rw [if_neg hwv] at hw
    exact hwv (hres.2 w hw).1

/-- every waiting key is scheduled for pruning at most once -/
def PruneOnce (x : Consumer) : Prop := (x.prune.flatMap (·.2)).Nodup

/-- pruning keeps "every waiting key still resolves" and "scheduled at most once": the keys it
    forgets are exactly those of the due entries, and a key that keeps waiting is in none of them -/
theorem prune_preserves_resolves (x : Consumer) (now : Time) (hr : PruneResolves x) (ho : PruneOnce x) :
    PruneResolves (pruneKeys x now) ∧ PruneOnce (pruneKeys x now) := by
  -- the schedule splits into the due entries and those that stay; scheduled once, no key is in both
  have hsplit := ((List.filter_append_perm (fun e : Time × List Nat => decide (e.1 ≤ now)) x.prune).flatMap_right
    (fun e : Time × List Nat => e.2)).nodup_iff.mpr ho
  rw [List.flatMap_append, List.nodup_append] at hsplit
  have hstay : (pruneKeys x now).prune = x.prune.filter fun e => !decide (e.1 ≤ now) :=
    List.filter_congr fun e _ => by
      show decide (now < e.1) = !decide (e.1 ≤ now)
      rw [← decide_not]; exact decide_eq_decide.mpr Int.not_le.symm
  constructor
  · intro e he k hk
    rw [resolveKey_pruneKeys, if_neg]
    · exact hr e (List.mem_filter.mp he).1 k hk
    · rw [hstay] at he
      exact fun hdue => hsplit.2.2 k hdue k (List.mem_flatMap.mpr ⟨e, he, hk⟩) rfl
  · rw [PruneOnce, hstay]
    exact hsplit.2.1

example : PruneOnce { (default : Consumer) with prune := [(3, [7, 8]), (5, [9])] } := by
  unfold PruneOnce; decide

/-- an assignment keeps "every waiting key still resolves": on a launched consumer the replaced
    key joins the waiting keys and keeps its index entry; before launch the replaced key's index
    entry is dropped, and that key was not waiting (it was current) -/
theorem assign_preserves_resolves (x : Consumer) (t : Time) (v key : Nat)
    (hwf : KeyWF x) (hp : NotCurrent x) (hr : PruneResolves x) :
    PruneResolves (assignRecord t v key x) := by
  intro e he k hk
  rw [resolveKey_assignRecord]
  split
  · rfl
  rcases mem_prune_assignRecord (List.mem_flatMap.mpr ⟨e, he, hk⟩) with h | ⟨hl, hold⟩
  · obtain ⟨e0, he0, hk0⟩ := List.mem_flatMap.mp h
    rw [if_neg fun h => hp e0 he0 k hk0 v h.2]
    exact hr e0 he0 k hk0
  · rw [if_neg fun h => h.1 hl, hwf v k hold]; rfl

/-- the prune schedule has one entry per time (the implementation keys the store by the time) -/
def PruneTimes (x : Consumer) : Prop := (x.prune.map (·.1)).Nodup

abbrev cntK (pr : List (Time × List Nat)) (k : Nat) : Nat := (pr.flatMap (·.2)).count k

/-- AppendConsumerAddrsToPrune adds one entry for the key and none for anybody else -/
theorem cntK_pruneAppend_le (pr : List (Time × List Nat)) (t : Time) (k k' : Nat)
    (hn : (pr.map (·.1)).Nodup) :
    cntK (pruneAppend pr t k) k' ≤ cntK pr k' + (if k' = k then 1 else 0) := by
  rw [cntK, Bucket.pruneAppend_eq]
  exact Nat.le_of_eq (Bucket.count_ids_append hn t k k')

/-- an assignment keeps "one entry per time" and "every waiting key is scheduled once": the only
    key it schedules is the replaced one, which was current and therefore not waiting -/
theorem assign_preserves_once (x : Consumer) (t : Time) (v key : Nat)
    (hp : NotCurrent x) (ht : PruneTimes x) (ho : PruneOnce x) :
    PruneTimes (assignRecord t v key x) ∧ PruneOnce (assignRecord t v key x) := by
  unfold PruneTimes PruneOnce
  rw [prune_assignRecord]
  cases hold : assignedKey x v with
  | none => exact ⟨ht, ho⟩
  | some old =>
    dsimp only
    split
    · rw [Bucket.pruneAppend_eq]
      refine ⟨Bucket.nodup_times_append ht t old, (Bucket.ids_append_perm ht t old).nodup_iff.mpr ?_⟩
      refine List.nodup_cons.mpr ⟨fun hin => ?_, ho⟩
      obtain ⟨e, he, hke⟩ := List.mem_flatMap.mp hin
      exact hp e he old hke v hold
    · exact ⟨ht, ho⟩

theorem prune_preserves_times (x : Consumer) (now : Time) (ht : PruneTimes x) :
    PruneTimes (pruneKeys x now) :=
  List.Nodup.sublist (List.Sublist.map _ List.filter_sublist) ht

/-- the key-index invariant of one consumer, closed under accepted assignments and pruning -/
structure KeyInv (x : Consumer) : Prop where
  wf : KeyWF x
  notCurrent : NotCurrent x
  resolves : PruneResolves x
  times : PruneTimes x
  once : PruneOnce x

theorem keyInv_assign (s : State) (c : CId) (v key : Nat) (t : Time)
    (hok : assignOK s c v key = true) (h : KeyInv (s.get c)) :
    KeyInv (assignRecord t v key (s.get c)) :=
  let ho := assign_preserves_once (s.get c) t v key h.notCurrent h.times h.once
  { wf := assign_preserves_keyWF s c v key t hok h.wf
    notCurrent := assign_preserves_notCurrent s c v key t hok h.wf h.notCurrent h.resolves
    resolves := assign_preserves_resolves (s.get c) t v key h.wf h.notCurrent h.resolves
    times := ho.1
    once := ho.2 }

theorem keyInv_prune (x : Consumer) (now : Time) (h : KeyInv x) : KeyInv (pruneKeys x now) :=
  let a := prune_preserves_keyWF x now h.wf h.notCurrent
  let b := prune_preserves_resolves x now h.resolves h.once
  { wf := a.1, notCurrent := a.2, resolves := b.1, times := prune_preserves_times x now h.times, once := b.2 }

/-- a freshly created consumer record satisfies it -/
theorem keyInv_blank (x : Consumer) (hk : x.ka = []) (hp : x.prune = []) : KeyInv x where
  wf := by intro v k h; rw [assignedKey_eq, hk] at h; cases h
  notCurrent := by intro e he; rw [hp] at he; cases he
  resolves := by intro e he; rw [hp] at he; cases he
  times := by unfold PruneTimes; rw [hp]; exact List.nodup_nil
  once := by unfold PruneOnce; rw [hp]; exact List.nodup_nil

/-- non-vacuity: a launched consumer whose validator replaces its key has a waiting key -/
example : (assignRecord 5 1 11 (assignRecord 5 1 10 { (default : Consumer) with phase := Phase.launched })).prune
    = [(5, [10])] := by decide

end ICS.Props.C05
